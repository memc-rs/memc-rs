import MemcVerif.Model.PolConc
import MemcVerif.Proofs.Policy
/-! The invariant `PInv` of the micro-step model of RandomPolicy under every schedule: the counter covers what is stored
    plus what is in flight (`cover`), and it is within `max limit B` unless some thread still holds a local copy not below
    it and will test it against the limit again before it stores (`bound`, through a `witness`). -/
namespace Memc

/-- bytes a thread's current call has added to the counter and not yet to the store, plus bytes it has taken
    from the store and not yet from the counter -/
def PPhase.pend : PPhase → Nat
  | .idle => 0
  | .looping _ r _ | .evicting _ r _ | .resetting _ r _ | .ready _ r => r.len
  | .evicted _ r l => r.len + l
  | .deleted l _ => l

def pendSum (ts : List PThread) : Nat := (ts.map (fun t => t.phase.pend)).sum

/-- a thread that will test the counter against the limit again before it stores: it holds a local copy not below the
    counter, or (`evicted`) its next operation, the `fetch_sub`, hands it the counter itself -/
def PPhase.witness (usage : Nat) : PPhase → Prop
  | .looping _ _ u | .evicting _ _ u | .resetting _ _ u => usage ≤ u
  | .evicted _ _ _ => True
  | _ => False

def PCall.Bounded (B : Nat) : PCall → Prop
  | .set _ r => r.len ≤ B
  | _ => True

def PPhase.Bounded (B : Nat) : PPhase → Prop
  | .looping _ r _ | .evicting _ r _ | .resetting _ r _ | .ready _ r | .evicted _ r _ => r.len ≤ B
  | _ => True

def PThread.Bounded (B : Nat) (t : PThread) : Prop := (∀ c ∈ t.todo, c.Bounded B) ∧ t.phase.Bounded B

theorem pendSum_cons (t : PThread) (ts : List PThread) : pendSum (t :: ts) = t.phase.pend + pendSum ts := rfl

theorem pendSum_set (ts : List PThread) (i : Nat) (t t' : PThread) (h : ts[i]? = some t) :
    pendSum (ts.set i t') + t.phase.pend = pendSum ts + t'.phase.pend := by
  induction ts generalizing i with
  | nil => simp at h
  | cons x rest ih =>
    cases i with
    | zero =>
      obtain rfl : x = t := Option.some.inj h
      rw [List.set_cons_zero, pendSum_cons, pendSum_cons]
      omega
    | succ n => rw [List.set_cons_succ, pendSum_cons, pendSum_cons, Nat.add_assoc, ih n h, Nat.add_assoc]

theorem pend_le_pendSum {ts : List PThread} {i : Nat} {t : PThread} (h : ts[i]? = some t) : t.phase.pend ≤ pendSum ts :=
  Nat.le.intro ((Nat.add_comm ..).trans (pendSum_set ts i t { t with phase := .idle } h))

theorem pendSum_zero_of_idle (ts : List PThread) (h : ∀ t ∈ ts, t.phase = .idle) : pendSum ts = 0 := by
  refine List.sum_eq_zero_iff_forall_eq_nat.mpr fun n hn => ?_
  obtain ⟨t, ht, rfl⟩ := List.mem_map.mp hn
  rw [h t ht]; rfl

theorem pendSum_only (ts : List PThread) (i : Nat) (t : PThread) (h : ts[i]? = some t)
    (hothers : ∀ j tj, j ≠ i → ts[j]? = some tj → tj.phase = .idle) : pendSum ts = t.phase.pend := by
  have h0 : pendSum (ts.set i { t with phase := .idle }) = 0 := by
    refine pendSum_zero_of_idle _ fun tj hj => ?_
    obtain ⟨j, hj⟩ := List.getElem?_of_mem hj
    by_cases hji : j = i
    · subst hji
      rw [List.getElem?_set_self (List.getElem?_eq_some_iff.mp h).1] at hj
      cases hj; rfl
    · rw [List.getElem?_set_ne (Ne.symm hji)] at hj
      exact hothers j tj hji hj
  have := pendSum_set ts i t { t with phase := .idle } h
  rw [h0] at this
  exact (Nat.zero_add _ ▸ this).symm

theorem witness_mono {p : PPhase} {u u' : Nat} (h : p.witness u) (hle : u' ≤ u) : p.witness u' := by
  cases p with
  | looping | evicting | resetting => exact Nat.le_trans hle h
  | evicted => trivial
  | idle | ready | deleted => exact h

theorem PSys.othersIdle_spec (s : PSys) (i : Nat) (h : s.othersIdle i = true) :
    ∀ j tj, j ≠ i → s.threads[j]? = some tj → tj.phase = .idle := by
  intro j tj hne hj
  simp only [PSys.othersIdle, List.all_eq_true, List.mem_range] at h
  have := h j (List.getElem?_eq_some_iff.mp hj).1
  simp only [hj, Bool.or_eq_true, beq_iff_eq] at this
  exact this.resolve_left hne

/-- the invariant of the micro-step model while no reset was racy and the counter did not overflow -/
structure PInv (B : Nat) (s : PSys) : Prop where
  cover : s.inner.mem.bytes + pendSum s.threads ≤ s.usage
  lt : s.usage < U64
  bound : s.usage ≤ max s.limit B ∨ ∃ (j : Nat) (tj : PThread), s.threads[j]? = some tj ∧ tj.phase.witness s.usage
  bounded : ∀ t ∈ s.threads, t.Bounded B

/-- One atomic operation of thread `i` (from `t` to `t'`) keeps the invariant when the new counter value covers what is
    then stored and in flight, and is within `max limit B`, or the thread is a witness of it, or the counter did not
    grow and the thread, if it was a witness, still is one or has seen the counter within `max limit B` (the others'
    local copies stay above the counter). -/
theorem PInv.step {B : Nat} {s : PSys} {i : Nat} {t : PThread} (h : PInv B s) (hi : s.threads[i]? = some t)
    {inner' : MemStore} {usage' : Nat} {t' : PThread} {racy overflow : Bool}
    (hcover : inner'.mem.bytes + pendSum s.threads + t'.phase.pend ≤ usage' + t.phase.pend) (hlt : usage' < U64)
    (hbound : usage' ≤ max s.limit B ∨ t'.phase.witness usage' ∨
      (usage' ≤ s.usage ∧ (t.phase.witness s.usage → t'.phase.witness usage' ∨ usage' ≤ max s.limit B)))
    (hb : t'.Bounded B) :
    PInv B { s with inner := inner', usage := usage', threads := s.threads.set i t', racy := racy, overflow := overflow } := by
  have hself : (s.threads.set i t')[i]? = some t' := List.getElem?_set_self (List.getElem?_eq_some_iff.mp hi).1
  refine ⟨?_, hlt, ?_, fun x hx => ?_⟩
  · refine Nat.le_of_add_le_add_right (b := t.phase.pend) ?_
    rw [Nat.add_assoc, pendSum_set s.threads i t t' hi, ← Nat.add_assoc]
    exact hcover
  · rcases hbound with hle | hw | ⟨hle, hkeep⟩
    · exact .inl hle
    · exact .inr ⟨i, t', hself, hw⟩
    · rcases h.bound with hm | ⟨j, tj, hj, hw⟩
      · exact .inl (Nat.le_trans hle hm)
      · by_cases hij : i = j
        · subst hij
          rw [hi] at hj; cases hj
          exact (hkeep hw).elim (fun hw' => .inr ⟨i, t', hself, hw'⟩) .inl
        · exact .inr ⟨j, tj, (List.getElem?_set_ne hij).trans hj, witness_mono hw hle⟩
  · rcases List.mem_or_eq_of_mem_set hx with h1 | rfl
    · exact h.bounded x h1
    · exact hb

/-- an operation that leaves the counter alone: what it adds to the store it takes from the thread's pending bytes -/
theorem PInv.keep {B : Nat} {s : PSys} {i : Nat} {t : PThread} (h : PInv B s) (hi : s.threads[i]? = some t)
    {inner' : MemStore} {t' : PThread}
    (hbytes : inner'.mem.bytes + t'.phase.pend ≤ s.inner.mem.bytes + t.phase.pend)
    (hw : t.phase.witness s.usage → t'.phase.witness s.usage ∨ s.usage ≤ max s.limit B) (hb : t'.Bounded B) :
    PInv B { s with inner := inner', threads := s.threads.set i t' } := by
  have := h.cover
  exact h.step hi (by omega) h.lt (.inr (.inr ⟨Nat.le_refl _, hw⟩)) hb

theorem PSys.stepThread_inv (B : Nat) (s : PSys) (now i : Nat) (t : PThread) (victim : Option Key)
    (hi : s.threads[i]? = some t) (h : PInv B s)
    (hr : (s.stepThread now i t victim).racy = false) (ho : (s.stepThread now i t victim).overflow = false) :
    PInv B (s.stepThread now i t victim) := by
  have hpend : t.phase.pend ≤ s.usage :=
    Nat.le_trans (pend_le_pendSum hi) (Nat.le_trans (Nat.le_add_left ..) h.cover)
  -- `store.set` ends a call: at most the pending record's bytes go into the store
  -- `+ 0` is `PPhase.idle.pend`, the form `PInv.keep` asks for
  have hstore : ∀ k r, (s.inner.set now k r).1.mem.bytes + 0 ≤ s.inner.mem.bytes + r.len := fun k r => by
    rw [Nat.add_zero, Nat.add_comm]
    exact MemStore.set_bytes_le s.inner now k r
  obtain ⟨htodo, hphase⟩ := h.bounded t (List.mem_of_getElem? hi)
  obtain ⟨todo, phase, results⟩ := t
  cases phase with
  | idle =>
    cases todo with
    | nil => exact h
    | cons c rest =>
      have hrest : ∀ c' ∈ rest, c'.Bounded B := fun c' hc' => htodo c' (List.mem_cons_of_mem _ hc')
      cases c with
      | set k r =>
        -- `fetch_add`: the thread becomes a witness of the value it has just written
        simp only [PSys.stepThread, Bool.or_eq_false_iff, decide_eq_false_iff_not, Nat.not_le] at ho ⊢
        rw [wadd_exact ho.2]
        exact h.step hi (Nat.add_le_add_right h.cover r.len) ho.2 (.inr (.inl (Nat.le_refl _)))
          ⟨hrest, htodo _ (List.mem_cons_self ..)⟩
      | delete k cas =>
        obtain ⟨hd1, hd2⟩ := MemStore.delete_bytes s.inner k cas
        simp only [PSys.stepThread]
        split
        next rec hres => exact h.keep hi (hd1 rec hres) False.elim ⟨hrest, trivial⟩
        next => exact h.keep hi (Nat.add_le_add_right hd2 _) False.elim ⟨hrest, trivial⟩
      | get k =>
        exact h.keep hi (Nat.add_le_add_right (MemStore.get_bytes_le s.inner now k) _) False.elim ⟨hrest, trivial⟩
      | flush ttl =>
        exact h.keep hi (Nat.add_le_add_right (MemStore.flush_bytes_le s.inner now ttl) _) False.elim ⟨hrest, trivial⟩
  | looping k r u =>
    by_cases hg : u > s.limit
    · -- on to `len()`: whichever way it goes, only the phase changes
      simp only [PSys.stepThread, hg, ↓reduceIte]
      split <;> exact h.keep hi (Nat.le_refl _) .inl ⟨htodo, hphase⟩
    · -- the loop is left through `store.set`: a witness has seen `usage ≤ u ≤ limit`
      simp only [PSys.stepThread, hg, ↓reduceIte]
      exact h.keep hi (hstore k r)
        (fun hw => .inr (Nat.le_trans hw (Nat.le_trans (Nat.not_lt.mp hg) (Nat.le_max_left ..)))) ⟨htodo, trivial⟩
  | evicting k r u =>
    have back : PInv B { s with threads := s.threads.set i ⟨todo, .looping k r u, results⟩ } :=
      h.keep hi (Nat.le_refl _) .inl ⟨htodo, hphase⟩
    cases victim with
    | none => exact back
    | some v =>
      cases hl : s.inner.mem.lookup v with
      | none => simp only [PSys.stepThread, hl]; exact back
      | some vr =>
        have hfree := Mem.bytes_erase_lookup s.inner.mem v vr hl
        simp only [PSys.stepThread, hl]
        refine h.keep hi ?_ (fun _ => .inl trivial) ⟨htodo, hphase⟩
        show (s.inner.mem.erase v).bytes + (r.len + vr.len) ≤ s.inner.mem.bytes + r.len
        rw [Nat.add_comm r.len, ← Nat.add_assoc]
        exact Nat.add_le_add_right hfree r.len
  | evicted k r l =>
    -- `fetch_sub`: the counter still covers, and the thread is a witness of the value it has just written
    have hl : l ≤ s.usage := Nat.le_trans (Nat.le_add_left ..) hpend
    simp only [PSys.stepThread]
    refine h.step hi ?_ (wsub_lt _ _) (.inr (.inl (Nat.le_refl _))) ⟨htodo, hphase⟩
    show s.inner.mem.bytes + pendSum s.threads + r.len ≤ wsub s.usage l + (r.len + l)
    rw [wsub_exact hl h.lt, Nat.add_comm r.len, ← Nat.add_assoc, Nat.sub_add_cancel hl]
    exact Nat.add_le_add_right h.cover r.len
  | resetting k r u =>
    -- a quiet reset: everybody else is between calls and the store is empty, so the counter restarts at `r.len ≤ B`
    simp only [PSys.stepThread, Bool.or_eq_false_iff, Bool.not_eq_false', Bool.and_eq_true, decide_eq_true_eq] at hr ⊢
    obtain ⟨_, ⟨hoth, hemp⟩, rfl⟩ := hr
    have honly : pendSum s.threads = r.len := pendSum_only s.threads i _ hi (PSys.othersIdle_spec s i hoth)
    have hlen : r.len ≤ s.usage := hpend
    rw [wsub_wsub_cancel hlen h.lt]
    refine h.step hi ?_ (Nat.lt_of_le_of_lt hlen h.lt) (.inl (Nat.le_trans hphase (Nat.le_max_right ..))) ⟨htodo, hphase⟩
    rw [Mem.bytes_of_length_zero _ hemp, honly, Nat.zero_add]
    exact Nat.le_refl _
  | ready k r =>
    simp only [PSys.stepThread]
    exact h.keep hi (hstore k r) False.elim ⟨htodo, trivial⟩
  | deleted l res =>
    -- `fetch_sub` after `store.delete`: the bytes leave the counter as they leave the pending total
    have hl : l ≤ s.usage := hpend
    simp only [PSys.stepThread, wsub_exact hl h.lt]
    exact h.step hi ((Nat.sub_add_cancel hl).symm ▸ h.cover) (Nat.lt_of_le_of_lt (Nat.sub_le ..) h.lt)
      (.inr (.inr ⟨Nat.sub_le .., False.elim⟩)) ⟨htodo, trivial⟩

/-- a step never changes the limit and only ever raises the two flags -/
theorem PSys.step_frame (s : PSys) (now i : Nat) (victim : Option Key) :
    (s.step now i victim).limit = s.limit ∧
    ((s.step now i victim).racy = false → s.racy = false) ∧
    ((s.step now i victim).overflow = false → s.overflow = false) := by
  unfold PSys.step
  split
  · exact ⟨rfl, id, id⟩
  next t _ =>
    fun_cases PSys.stepThread s now i t victim with
    | case2 => exact ⟨rfl, id, fun h => (Bool.or_eq_false_iff.mp h).1⟩    -- `fetch_add` may raise `overflow`
    | case14 => exact ⟨rfl, fun h => (Bool.or_eq_false_iff.mp h).1, id⟩   -- the reset may raise `racy`
    | _ => exact ⟨rfl, id, id⟩

theorem PSys.step_inv (B : Nat) (s : PSys) (now i : Nat) (victim : Option Key) (h : PInv B s)
    (hr : (s.step now i victim).racy = false) (ho : (s.step now i victim).overflow = false) :
    PInv B (s.step now i victim) := by
  unfold PSys.step at *
  cases hi : s.threads[i]? with
  | none => exact h
  | some t =>
    simp only [hi] at hr ho
    exact PSys.stepThread_inv B s now i t victim hi h hr ho

theorem PSys.run_cons (s : PSys) (now : Nat) (e : Nat × Option Key) (rest : List (Nat × Option Key)) :
    s.run now (e :: rest) = (s.step now e.1 e.2).run now rest := rfl

theorem PSys.run_append (s : PSys) (now : Nat) (a b : List (Nat × Option Key)) :
    s.run now (a ++ b) = (s.run now a).run now b :=
  List.foldl_append ..

/-- Along a run the limit stays, and the invariant holds for as long as both flags are down: they only ever rise
    (`step_frame`), so a run that ends with them down had them down at every step. -/
theorem PSys.run_inv (B : Nat) (s : PSys) (now : Nat) (sched : List (Nat × Option Key)) (h : PInv B s) :
    (s.run now sched).limit = s.limit ∧
    ((s.run now sched).racy = false → (s.run now sched).overflow = false → PInv B (s.run now sched)) :=
  List.foldlRecOn (motive := fun s' => s'.limit = s.limit ∧ (s'.racy = false → s'.overflow = false → PInv B s'))
    sched _ ⟨rfl, fun _ _ => h⟩ fun s' ⟨hl, hinv⟩ e _ =>
      have ⟨l1, r1, o1⟩ := PSys.step_frame s' now e.1 e.2
      ⟨l1.trans hl, fun hr ho => PSys.step_inv B s' now e.1 e.2 (hinv (r1 hr) (o1 ho)) hr ho⟩

theorem PSys.init_inv (B limit : Nat) (programs : List (List PCall)) (hb : ∀ p ∈ programs, ∀ c ∈ p, c.Bounded B) :
    PInv B (PSys.init limit programs) := by
  have hthreads : ∀ t ∈ (PSys.init limit programs).threads, ∃ p ∈ programs, { todo := p } = t :=
    fun _ ht => List.mem_map.mp ht
  refine ⟨?_, (by decide : 0 < U64), .inl (Nat.zero_le _), fun t ht => ?_⟩
  · rw [pendSum_zero_of_idle _ fun t ht => ?_]
    · exact Nat.le_refl 0
    · obtain ⟨p, _, rfl⟩ := hthreads t ht
      rfl
  · obtain ⟨p, hp, rfl⟩ := hthreads t ht
    exact ⟨hb p hp, trivial⟩

theorem PSys.quiescent_spec (s : PSys) (h : s.quiescent = true) : ∀ t ∈ s.threads, t.phase = .idle := by
  intro t ht
  simp only [PSys.quiescent, List.all_eq_true] at h
  have := h t ht
  simp only [PThread.finished, Bool.and_eq_true, beq_iff_eq] at this
  exact this.2

theorem PInv.at_rest {B : Nat} {s : PSys} (h : PInv B s) (hidle : ∀ t ∈ s.threads, t.phase = .idle) :
    s.inner.mem.bytes ≤ s.usage ∧ s.usage ≤ max s.limit B := by
  have hcov := h.cover
  rw [pendSum_zero_of_idle s.threads hidle] at hcov
  refine ⟨hcov, ?_⟩
  rcases h.bound with hb | ⟨j, tj, hj, hw⟩
  · exact hb
  · rw [hidle tj (List.mem_of_getElem? hj)] at hw
    exact hw.elim

end Memc

import MemcVerif.Proofs.Handle
import MemcVerif.Model.Conn
/-! Over the MemoryStore the handler runs `applyOp (reqOp req)`: this ties the sequential theorems about commands
    (C01, C02, C05–C08) to what the wire-level model — the one the driver runs — does. -/
namespace Memc

theorem handleRequest_eq (s : MemStore) (now : Nat) (req : Req) :
    handleRequest memOps s now req = ((applyOp s now (reqOp req)).1, respond req (applyOp s now (reqOp req)).2) := by
  rw [handleRequest_execOp, execOp_memOps]

theorem runReqs_store (s : MemStore) (reqs : List (Nat × Req)) :
    (reqs.foldl (fun st e => (handleRequest memOps st e.1 e.2).1) s) = runOps s (reqs.map (fun e => (e.1, reqOp e.2))) := by
  induction reqs generalizing s with
  | nil => rfl
  | cons e rest ih =>
    simp only [List.foldl_cons, List.map_cons, runOps]
    rw [handleRequest_eq]
    exact ih _

/-- requests after which `Client::handle` leaves its receive loop -/
def Req.leaves (r : Req) : Bool :=
  match r with
  | .headerOnly h => h.opcode = 0x17 || h.opcode = 0x07
  | _ => false

theorem errorResp_not_quit (e : CacheError) (rh : RespHeader) : (errorResp e rh).isQuit = false := rfl

/-- only Quit and QuitQ make the loop leave -/
theorem respond_not_quit (r : Req) (res : Res) (resp : Resp) (hl : r.leaves = false)
    (h : respond r res = some resp) : resp.isQuit = false := by
  cases r with
  | get hd key =>
    obtain rfl := quietGet_some h
    cases res <;> rfl
  | headerOnly hd =>
    simp only [Req.leaves, Bool.or_eq_false_iff, decide_eq_false_iff_not] at hl
    rw [respond_headerOnly, if_neg hl.2, if_neg hl.1] at h
    split at h <;> cases h <;> rfl
  | flush hd exp =>
    -- a quiet flush answers as a quiet mutation that succeeded does: not at all
    obtain rfl := quietMutation_some (r := .plain _) h
    rfl
  | tooLarge hd => cases h; rfl
  | notSupported hd => cases h; rfl
  | _ =>
    -- delete, set, append, delta: what passed the mutation filter is the command's answer, for no result a quit frame
    obtain rfl := quietMutation_some h
    cases res <;> rfl

theorem execEv_frame_stays (now : Nat) (s : MemStore) (r : Req) (hl : r.leaves = false) :
    execEv memOps now s (.frame r) =
      ((applyOp s now (reqOp r)).1,
       (match respond r (applyOp s now (reqOp r)).2 with | some resp => encode resp | none => []), false) := by
  have hq : isQuitQ r = false := by
    cases r with
    | headerOnly hd => exact (Bool.or_eq_false_iff.mp hl).1
    | _ => rfl
  simp only [execEv, hq, handleRequest_eq]
  cases hr : respond r (applyOp s now (reqOp r)).2 with
  | none => rfl
  | some resp => simp only [respond_not_quit r _ resp hl hr]; rfl

/-- the bytes written for a list of requests, in order (each response built from the command's result in
    the state the earlier commands left) -/
def respondAll (now : Nat) : MemStore → List Req → Bytes
  | _, [] => []
  | s, r :: rest =>
    (match respond r (applyOp s now (reqOp r)).2 with | some resp => encode resp | none => []) ++
      respondAll now (applyOp s now (reqOp r)).1 rest

/-- a list of decoded requests none of which ends the connection: the receive loop stays in, the store is
    the commands' store, the output is the responses in request order -/
theorem execEvs_frames (now : Nat) (s : MemStore) (reqs : List Req) (hl : ∀ r ∈ reqs, r.leaves = false) :
    execEvs memOps now s (reqs.map .frame) =
      (runOps s (reqs.map (fun r => (now, reqOp r))), respondAll now s reqs, false) := by
  induction reqs generalizing s with
  | nil => rfl
  | cons r rest ih =>
    simp only [List.map_cons, execEvs, execEv_frame_stays now s r (hl r (List.mem_cons_self ..)), runOps, respondAll]
    rw [ih _ (fun x hx => hl x (List.mem_cons_of_mem _ hx))]
    rfl

end Memc

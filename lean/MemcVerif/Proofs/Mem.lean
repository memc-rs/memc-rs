import MemcVerif.Model.Store
/-! The association list standing for the DashMap: `lookup` after `erase` / `insert` / `map`, the byte total
    (`Mem.bytes`) and the one-entry-per-key invariant (`Mem.WF`). -/
namespace Memc

@[simp] theorem Mem.lookup_nil (k : Key) : Mem.lookup [] k = none := rfl

theorem Mem.lookup_cons (k k' : Key) (r : Record) (m : Mem) :
    Mem.lookup ((k', r) :: m) k = if k' = k then some r else Mem.lookup m k := rfl

@[simp] theorem Mem.erase_nil (k : Key) : Mem.erase [] k = [] := rfl

theorem Mem.erase_cons (k k' : Key) (r : Record) (m : Mem) :
    Mem.erase ((k', r) :: m) k = if k' = k then Mem.erase m k else (k', r) :: Mem.erase m k := by
  by_cases h : k' = k <;> simp [Mem.erase, List.filter, h]

theorem Mem.lookup_erase_self (m : Mem) (k : Key) : (m.erase k).lookup k = none := by
  induction m with
  | nil => rfl
  | cons e m ih =>
    obtain ⟨k2, r⟩ := e
    rw [Mem.erase_cons]
    by_cases h2 : k2 = k
    · rw [if_pos h2, ih]
    · rw [if_neg h2, Mem.lookup_cons, if_neg h2, ih]

theorem Mem.lookup_erase_ne (m : Mem) {k k' : Key} (h : k' ≠ k) : (m.erase k).lookup k' = m.lookup k' := by
  induction m with
  | nil => rfl
  | cons e m ih =>
    obtain ⟨k2, r⟩ := e
    rw [Mem.erase_cons, Mem.lookup_cons]
    by_cases h2 : k2 = k
    · rw [if_pos h2, ih, if_neg (fun e : k2 = k' => h (e ▸ h2))]
    · rw [if_neg h2, Mem.lookup_cons, ih]

theorem Mem.lookup_insert_self (m : Mem) (k : Key) (r : Record) : (m.insert k r).lookup k = some r := by
  rw [Mem.insert, Mem.lookup_cons, if_pos rfl]

theorem Mem.lookup_insert_ne (m : Mem) {k k' : Key} (r : Record) (h : k' ≠ k) :
    (m.insert k r).lookup k' = m.lookup k' := by
  rw [Mem.insert, Mem.lookup_cons, if_neg (Ne.symm h), Mem.lookup_erase_ne m h]

theorem Mem.lookup_map (m : Mem) (f : Record → Record) (k : Key) :
    Mem.lookup (m.map (fun e => (e.1, f e.2))) k = (m.lookup k).map f := by
  induction m with
  | nil => rfl
  | cons e m ih =>
    obtain ⟨k', r⟩ := e
    by_cases h : k' = k <;> simp [Mem.lookup_cons, h, ih]

theorem Mem.lookup_some_mem {m : Mem} {k : Key} {r : Record} (h : m.lookup k = some r) : (k, r) ∈ m := by
  induction m with
  | nil => simp at h
  | cons e m ih =>
    obtain ⟨k', r'⟩ := e
    rw [Mem.lookup_cons] at h
    by_cases hk : k' = k
    · rw [if_pos hk] at h; cases h; cases hk; exact List.mem_cons_self ..
    · rw [if_neg hk] at h; exact List.mem_cons_of_mem _ (ih h)

theorem Mem.erase_absent (m : Mem) (k : Key) (h : m.lookup k = none) : m.erase k = m := by
  induction m with
  | nil => rfl
  | cons e m ih =>
    obtain ⟨k', r⟩ := e
    rw [Mem.lookup_cons] at h
    by_cases hk : k' = k
    · rw [if_pos hk] at h; cases h
    · rw [if_neg hk] at h; rw [Mem.erase_cons, if_neg hk, ih h]

/-- total `Record::len` over the store (the sum `Policy.stored` of Model/Policy, which the driver prints) -/
def Mem.bytes (m : Mem) : Nat := (m.map (fun e => e.2.len)).sum

@[simp] theorem Mem.bytes_nil : Mem.bytes [] = 0 := rfl
@[simp] theorem Mem.bytes_cons (e : Key × Record) (m : Mem) : Mem.bytes (e :: m) = e.2.len + Mem.bytes m :=
  rfl

theorem Mem.bytes_erase_le (m : Mem) (k : Key) : (m.erase k).bytes ≤ m.bytes := by
  induction m with
  | nil => simp
  | cons e m ih =>
    obtain ⟨k', r⟩ := e
    rw [Mem.erase_cons]
    split
    · exact Nat.le_trans ih (Nat.le_add_left ..)
    · exact Nat.add_le_add_left ih _

theorem Mem.bytes_erase_lookup (m : Mem) (k : Key) (r : Record) (h : m.lookup k = some r) :
    (m.erase k).bytes + r.len ≤ m.bytes := by
  induction m with
  | nil => cases h
  | cons e m ih =>
    obtain ⟨k', r'⟩ := e
    rw [Mem.lookup_cons] at h
    rw [Mem.erase_cons]
    by_cases hk : k' = k
    · rw [if_pos hk] at h
      cases h
      rw [if_pos hk, Mem.bytes_cons, Nat.add_comm]
      exact Nat.add_le_add_left (Mem.bytes_erase_le m k) _
    · rw [if_neg hk] at h
      rw [if_neg hk, Mem.bytes_cons, Mem.bytes_cons, Nat.add_assoc]
      exact Nat.add_le_add_left (ih h) _

theorem Mem.bytes_insert_le (m : Mem) (k : Key) (r : Record) : (m.insert k r).bytes ≤ r.len + m.bytes := by
  rw [Mem.insert, Mem.bytes_cons]
  exact Nat.add_le_add_left (Mem.bytes_erase_le m k) _

theorem Mem.bytes_map (m : Mem) (f : Record → Record) (hf : ∀ r, (f r).len = r.len) :
    Mem.bytes (m.map (fun e => (e.1, f e.2))) = m.bytes := by
  induction m with
  | nil => rfl
  | cons e m ih => simp only [List.map_cons, Mem.bytes_cons, ih, hf]

theorem Mem.bytes_of_length_zero (m : Mem) (h : m.length = 0) : m.bytes = 0 := by
  rw [List.eq_nil_of_length_eq_zero h]; rfl

theorem Mem.bytes_erase_absent (m : Mem) (k : Key) (hl : m.lookup k = none) : (m.erase k).bytes = m.bytes := by
  rw [Mem.erase_absent m k hl]

/-! ### at most one entry per key

`insert` erases first, so the list never holds two entries for one key, and erasing a present key frees exactly
the size of the record `lookup` returns. -/

def Mem.WF : Mem → Prop
  | [] => True
  | e :: m => Mem.lookup m e.1 = none ∧ Mem.WF m

theorem Mem.WF_erase (m : Mem) (k : Key) (h : m.WF) : (m.erase k).WF := by
  induction m with
  | nil => trivial
  | cons e m ih =>
    obtain ⟨k', r⟩ := e
    obtain ⟨h1, h2⟩ := h
    rw [Mem.erase_cons]
    by_cases hk : k' = k
    · rw [if_pos hk]; exact ih h2
    · rw [if_neg hk]; exact ⟨(Mem.lookup_erase_ne m hk).trans h1, ih h2⟩

theorem Mem.WF_insert (m : Mem) (k : Key) (r : Record) (h : m.WF) : (m.insert k r).WF :=
  ⟨Mem.lookup_erase_self m k, Mem.WF_erase m k h⟩

theorem Mem.WF_map (m : Mem) (f : Record → Record) (h : m.WF) : Mem.WF (m.map (fun e => (e.1, f e.2))) := by
  induction m with
  | nil => trivial
  | cons e m ih =>
    obtain ⟨h1, h2⟩ := h
    exact ⟨by rw [Mem.lookup_map, h1]; rfl, ih h2⟩

theorem Mem.bytes_erase_exact (m : Mem) (k : Key) (r : Record) (h : m.WF) (hl : m.lookup k = some r) :
    (m.erase k).bytes + r.len = m.bytes := by
  induction m with
  | nil => cases hl
  | cons e m ih =>
    obtain ⟨k', r'⟩ := e
    obtain ⟨h1, h2⟩ := h
    rw [Mem.lookup_cons] at hl
    rw [Mem.erase_cons]
    by_cases hk : k' = k
    · -- no second entry for `k` further down
      rw [if_pos hk] at hl
      cases hl
      rw [if_pos hk, Mem.erase_absent m k (hk ▸ h1), Mem.bytes_cons, Nat.add_comm]
    · rw [if_neg hk] at hl
      rw [if_neg hk, Mem.bytes_cons, Mem.bytes_cons, Nat.add_assoc, ih h2 hl]

end Memc

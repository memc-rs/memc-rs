import MemcVerif.Generated.Tables
import MemcVerif.Model.Conn
import MemcVerif.Model.Ops
/-!
# The model's tables are the source's tables

`Generated/Tables.lean` is rewritten from /repo's source by `tools/gentables.py` on every run of a check. Here: the
vocabulary in which the property files state that the model uses exactly those values, and two facts about the
dispatch table: `tie_dispatch` (C10 and C12 both rest on it) and `tie_dispatch_complete` (C10; above `OpCodeMax` it is an
argument, not evaluation). Such statements (`…_are_the_sources`) are closed by kernel evaluation: they hold
exactly as long as the model uses the values the source has *now*. A section the extractor did not recognise is `none`
and its theorem is vacuous (reported as "not established", not as a violation).
-/
namespace Memc

/-- "if the extractor recognised this part of the source, its value satisfies `p`" -/
def Holds {α : Type} (o : Option α) (p : α → Prop) : Prop := ∀ a, o = some a → p a

instance {α : Type} (o : Option α) (p : α → Prop) [∀ a, Decidable (p a)] : Decidable (Holds o p) :=
  inferInstanceAs (Decidable (∀ a, a ∈ o → p a))

def allErrors : List CacheError :=
  [.notFound, .keyExists, .valueTooLarge, .invalidArguments, .itemNotStored, .arithOnNonNumeric, .unknownCommand,
   .outOfMemory, .notSupported, .internalError, .busy, .temporaryFailure]

/-- the parser codes `tools/gentables.py` writes into `Gen.dispatch` (listed in `Generated/Tables.lean`) -/
def OpGroup.idx : OpGroup → Nat
  | .get => 0 | .append => 1 | .set => 2 | .delete => 3 | .delta => 4 | .headerOnly => 5 | .flush => 6
  | .unsupported => 7 | .invalid => 8

/-- a header that `headerValid` and `requestValid … true` accept; the table statements vary one field of it -/
def hdr0 : ReqHeader := ⟨0x80, 0, 1, 0, 0, 0, 1, 0, 0⟩

/-- every opcode the source dispatches goes to the same per-opcode parser in the model … -/
theorem tie_dispatch :
    Holds Gen.dispatch (fun t => t.all (fun p => (opGroup p.1).idx == p.2) = true) := by decide

/-- from `OpCodeMax` on the model has no command group: the chain of comparisons in `opGroup` names smaller values only -/
theorem opGroup_of_ge {op : Nat} (h : OPCODE_MAX ≤ op) : opGroup op = .invalid := by
  have ne (c : Nat) (hc : c < OPCODE_MAX) : op ≠ c := Nat.ne_of_gt (Nat.lt_of_lt_of_le hc h)
  simp (disch := decide) only [opGroup, ne, or_self, if_false]

/-- … and every other opcode value of the one-byte field is rejected by the model as it is by `from_u8` returning `None` -/
theorem tie_dispatch_complete :
    Holds Gen.dispatch (fun t => (List.range 256).all (fun op => t.any (fun p => p.1 == op) || (opGroup op).idx == 8) = true) := by
  -- below `OpCodeMax` by evaluation against the table; from there on by `opGroup_of_ge`, whatever the table holds
  have low : Holds Gen.dispatch (fun t => ∀ op < OPCODE_MAX, (t.any (fun p => p.1 == op) || (opGroup op).idx == 8) = true) := by
    decide
  intro t ht
  rw [List.all_eq_true]
  intro op _
  by_cases h : op < OPCODE_MAX
  · exact low t ht op h
  · rw [opGroup_of_ge (Nat.le_of_not_lt h)]
    exact Bool.or_true _

/-- does a size test written with operator `op` (0 `>`, 1 `>=`) refuse a body of `b` bytes under limit `l`? -/
def opRefuses (op b l : Nat) : Bool := if op = 0 then decide (b > l) else if op = 1 then decide (b ≥ l) else false

/-- does the model's decoder refuse (hand out 'too large' for) a header announcing `b` bytes under limit `l`? -/
def modelRefuses (b l : Nat) : Bool :=
  match (Codec.afterHeader l { hdr0 with bodyLen := b } []).1 with
  | .frame (.tooLarge _) => true
  | _ => false

/-- a store holding the counter `n` under key `[107]` -/
def counterStore (n : Nat) : MemStore := (MemStore.init.set 0 [107] (Record.new (toDec n) 0 0 0)).1

/-- an `add_delta` result as plain data: `some (cas, value)`, or `none` for 'not found', `some (0, code)` for another error -/
def deltaOut (r : Except CacheError DeltaResult) : Option (Nat × Nat) :=
  match r with
  | .ok d => some (d.cas, d.value)
  | .error .notFound => none
  | .error e => some (0, e.code)

end Memc

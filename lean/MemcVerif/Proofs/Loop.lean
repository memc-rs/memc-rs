import MemcVerif.Model.Conn
/-! Equations of the receive loop (`execEv`, `execEvs`, `feed`), for any cache. -/
namespace Memc

variable {σ : Type} (C : CacheOps σ)

theorem execEv_frame_eq (now : Nat) (s : σ) (r : Req) :
    execEv C now s (.frame r) =
      if isQuitQ r then (s, [], true)
      else ((handleRequest C s now r).1,
        match (handleRequest C s now r).2 with
        | some resp => (encode resp, resp.isQuit)
        | none => ([], false)) := by
  dsimp only [execEv]
  rcases handleRequest C s now r with ⟨s', _ | resp⟩ <;> rfl

/-- an oversized request is refused before its opcode is looked at: the store is not touched and the loop goes on -/
theorem execEv_tooLarge (now : Nat) (s : σ) (h : ReqHeader) :
    execEv C now s (.frame (.tooLarge h)) =
      (s, encode (errorResp .valueTooLarge { opcode := h.opcode, opaq := h.opaq }), false) :=
  rfl

theorem execEvs_append (now : Nat) (s : σ) (es1 es2 : List Ev) :
    execEvs C now s (es1 ++ es2) =
      if (execEvs C now s es1).2.2 then execEvs C now s es1
      else ((execEvs C now (execEvs C now s es1).1 es2).1,
            (execEvs C now s es1).2.1 ++ (execEvs C now (execEvs C now s es1).1 es2).2.1,
            (execEvs C now (execEvs C now s es1).1 es2).2.2) := by
  induction es1 generalizing s with
  | nil => rfl
  | cons e es ih =>
    rw [List.cons_append, execEvs, execEvs]
    rcases execEv C now s e with ⟨s1, o1, _ | _⟩
    · simp only [Bool.false_eq_true, if_false, ih]
      rcases execEvs C now s1 es with ⟨s2, o2, _ | _⟩
      · simp only [Bool.false_eq_true, if_false, List.append_assoc]
      · rfl
    · rfl

theorem feed_closed {limit now : Nat} {c : Conn} {s : σ} (hc : c.closed = true) (chunk : Bytes) :
    feed C limit now c s chunk = (c, s, []) := by
  rw [feed, if_pos hc]

/-- `feed` on an open connection, with the test "did the receive loop leave" moved to where it matters, the
    connection's state -/
theorem feed_open {limit now : Nat} {c : Conn} {s : σ} (hc : c.closed = false) (chunk : Bytes) :
    feed C limit now c s chunk =
      let d := drain limit c.pst (c.buf ++ chunk)
      let r := execEvs C now s d.1
      (if r.2.2 then Conn.dead else ⟨d.2.1, d.2.2, false⟩, r.1, r.2.1) := by
  rw [feed, if_neg (Bool.eq_false_iff.1 hc)]
  exact (apply_ite (fun x : Conn => (x, _, _)) ..).symm

theorem feed_init (limit now : Nat) (s : σ) (chunk : Bytes) :
    feed C limit now Conn.init s chunk =
      let d := drain limit .idle chunk
      let r := execEvs C now s d.1
      (if r.2.2 then Conn.dead else ⟨d.2.1, d.2.2, false⟩, r.1, r.2.1) :=
  feed_open C rfl chunk

end Memc

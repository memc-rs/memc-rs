import MemcVerif.Model.Bytes
/-! Big-endian put/get round trip. -/
namespace Memc

theorem putBE_length (len n : Nat) : (putBE len n).length = len := by
  induction len generalizing n with
  | zero => rfl
  | succ l ih => simp [putBE, ih]

theorem getBE_acc (bs : Bytes) (a : Nat) :
    bs.foldl (fun acc b => acc * 256 + b.toNat) a = a * 256 ^ bs.length + getBE bs := by
  induction bs generalizing a with
  | nil => simp [getBE]
  | cons b t ih =>
    simp only [List.foldl_cons, List.length_cons, getBE]
    rw [ih (a * 256 + b.toNat), ih (0 * 256 + b.toNat), Nat.zero_mul, Nat.zero_add, Nat.add_mul, Nat.mul_assoc,
      Nat.pow_succ, Nat.mul_comm 256, Nat.add_assoc]

theorem getBE_cons (b : UInt8) (t : Bytes) : getBE (b :: t) = b.toNat * 256 ^ t.length + getBE t := by
  rw [getBE, List.foldl_cons, getBE_acc, Nat.zero_mul, Nat.zero_add]

theorem getBE_putBE (len n : Nat) : getBE (putBE len n) = n % 256 ^ len := by
  induction len generalizing n with
  | zero => simp [putBE, getBE, Nat.mod_one]
  | succ l ih =>
    have h256 : (2 : Nat) ^ 8 = 256 := by decide
    -- the first octet is the quotient by `256 ^ l`, the others encode the remainder: `Nat.mod_mul`
    rw [putBE, getBE_cons, putBE_length, ih, UInt8.toNat_ofNat', h256, Nat.mod_mod, Nat.pow_succ,
      Nat.mod_mul (a := 256 ^ l) (b := 256), Nat.mul_comm, Nat.add_comm]

theorem getBE_putBE_of_lt (len n : Nat) (h : n < 256 ^ len) : getBE (putBE len n) = n := by
  rw [getBE_putBE, Nat.mod_eq_of_lt h]

theorem getBE_lt (bs : Bytes) : getBE bs < 256 ^ bs.length := by
  induction bs with
  | nil => simp [getBE]
  | cons b t ih =>
    rw [getBE_cons, List.length_cons, Nat.pow_succ]
    calc b.toNat * 256 ^ t.length + getBE t
        < b.toNat * 256 ^ t.length + 256 ^ t.length := Nat.add_lt_add_left ih _
      _ = (b.toNat + 1) * 256 ^ t.length := (Nat.succ_mul ..).symm
      _ ≤ 256 * 256 ^ t.length := Nat.mul_le_mul_right _ (UInt8.toNat_lt b)
      _ = 256 ^ t.length * 256 := Nat.mul_comm ..

end Memc

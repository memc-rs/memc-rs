import MemcVerif.Model.Wire
import MemcVerif.Proofs.BE
/-! A client's reading of the response stream: the header fields come back as written, and a reader that
    takes 24 octets and then `bodyLen` more cuts a concatenation of responses at the response boundaries. -/
namespace Memc

/-- a client's reading of a response header (`b` holds at least 24 octets) -/
def parseRespHeader (b : Bytes) : RespHeader :=
  { opcode := getBE ((b.drop 1).take 1), keyLen := getBE ((b.drop 2).take 2), extrasLen := getBE ((b.drop 4).take 1),
    status := getBE ((b.drop 6).take 2), bodyLen := getBE ((b.drop 8).take 4), opaq := getBE ((b.drop 12).take 4),
    cas := getBE ((b.drop 16).take 8) }

/-- every field fits the width it is written with -/
def RespHeader.inRange (h : RespHeader) : Prop :=
  h.opcode < 256 ∧ h.keyLen < 256 ^ 2 ∧ h.extrasLen < 256 ∧ h.status < 256 ^ 2 ∧ h.bodyLen < 256 ^ 4 ∧
  h.opaq < 256 ^ 4 ∧ h.cas < 256 ^ 8

/-! reading a field back: drop the fields in front of it, take its own width -/

theorem drop_putBE_append {n len : Nat} (h : len ≤ n) (x : Nat) (rest : Bytes) :
    (putBE len x ++ rest).drop n = rest.drop (n - len) := by
  rw [List.drop_append, putBE_length, List.drop_of_length_le (by rw [putBE_length]; exact h), List.nil_append]

theorem take_putBE_append (len x : Nat) (rest : Bytes) : (putBE len x ++ rest).take len = putBE len x :=
  List.take_left' (putBE_length len x)

theorem encodeHeader_length (h : RespHeader) : (encodeHeader h).length = 24 := by
  simp only [encodeHeader, List.length_append, putBE_length]

theorem parseRespHeader_encode (h : RespHeader) (hr : h.inRange) (rest : Bytes) :
    parseRespHeader (encodeHeader h ++ rest) = h := by
  obtain ⟨h1, h2, h3, h4, h5, h6, h7⟩ := hr
  simp (disch := decide) only [parseRespHeader, encodeHeader, List.append_assoc, drop_putBE_append,
    take_putBE_append, Nat.reduceSub, List.drop_zero]
  rw [getBE_putBE_of_lt 1 _ (by rwa [Nat.pow_one]), getBE_putBE_of_lt 2 _ h2,
    getBE_putBE_of_lt 1 _ (by rwa [Nat.pow_one]), getBE_putBE_of_lt 2 _ h4, getBE_putBE_of_lt 4 _ h5,
    getBE_putBE_of_lt 4 _ h6, getBE_putBE_of_lt 8 _ h7]

/-- a client's framing of the response stream: 24 octets of header, then `bodyLen` octets; stops when
    fewer than a whole response is left -/
def clientSplit : (fuel : Nat) → Bytes → List Bytes
  | 0, _ => []
  | fuel + 1, b =>
    if b.length < 24 then []
    else
      let n := 24 + (parseRespHeader b).bodyLen
      if b.length < n then [] else b.take n :: clientSplit fuel (b.drop n)

/-- what the client needs of a response: fields in range and the announced body length is the real one -/
def Resp.Framed (r : Resp) : Prop := r.header.inRange ∧ (encode r).length = 24 + r.header.bodyLen

theorem parseRespHeader_encode_append (r : Resp) (hr : r.header.inRange) (rest : Bytes) :
    parseRespHeader (encode r ++ rest) = r.header := by
  unfold encode
  rw [List.append_assoc]
  exact parseRespHeader_encode _ hr _

theorem clientSplit_cons (r : Resp) (h : r.Framed) (fuel : Nat) (rest : Bytes) :
    clientSplit (fuel + 1) (encode r ++ rest) = encode r :: clientSplit fuel rest := by
  obtain ⟨hr, hlen⟩ := h
  -- the buffer holds the whole response, so in particular a whole header
  have h2 : ¬ (encode r ++ rest).length < (encode r).length := by
    rw [List.length_append]
    exact Nat.not_lt.2 (Nat.le_add_right ..)
  have h1 : ¬ (encode r ++ rest).length < 24 := fun h => h2 (Nat.lt_of_lt_of_le h (hlen ▸ Nat.le_add_right ..))
  simp only [clientSplit, parseRespHeader_encode_append r hr, ← hlen, h1, h2, if_false, List.take_left', List.drop_left']

theorem clientSplit_responses (rs : List Resp) (hall : ∀ r ∈ rs, r.Framed) (fuel : Nat) (hf : rs.length ≤ fuel) :
    clientSplit fuel (rs.map encode).flatten = rs.map encode := by
  induction rs generalizing fuel with
  | nil => cases fuel <;> rfl
  | cons r rest ih =>
    cases fuel with
    | zero => exact absurd hf (Nat.not_succ_le_zero _)
    | succ n =>
      rw [List.map_cons, List.flatten_cons, clientSplit_cons r (hall r (List.mem_cons_self ..)),
        ih (fun x hx => hall x (List.mem_cons_of_mem _ hx)) n (Nat.le_of_succ_le_succ hf)]

end Memc

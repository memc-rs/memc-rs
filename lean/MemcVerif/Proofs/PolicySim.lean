import MemcVerif.Proofs.Sim
import MemcVerif.Proofs.Policy
/-! RandomPolicy with no victims on the tape simulates the bare MemoryStore: evictions are read off the tape, so with an
    empty tape the model cannot evict. -/
namespace Memc

def polR (p : Policy) (s : MemStore) : Prop := p.inner = s ∧ p.tape = []

/-- `bad` does not occur: it records that the loop had to evict and found no victim on the tape. A premise `bad = false`
    ties a statement to a run of the real code, whose victims the tape records; it is no premise of the simulation. -/
theorem policy_sim : Sim polOps memOps polR fun _ => True where
  get_sticky := fun _ _ _ h => h
  set_sticky := fun _ _ _ _ h => h
  delete_sticky := fun _ _ _ h => h
  flush_sticky := fun _ _ _ h => h
  get := by
    rintro a _ n k ⟨rfl, h2⟩ -
    exact ⟨⟨rfl, h2⟩, rfl⟩
  set := by
    rintro a _ n k r ⟨rfl, h2⟩ -
    have ⟨h3, h4⟩ : (a.incrMemUsage r.len).inner = a.inner ∧ (a.incrMemUsage r.len).tape = [] := by
      unfold Policy.incrMemUsage; rw [h2]; exact evictLoop_nil _ _ _
    exact ⟨⟨congrArg (fun i => (i.set n k r).1) h3, h4⟩, congrArg (fun i => (i.set n k r).2) h3⟩
  delete := by
    rintro a _ k c ⟨rfl, h2⟩ -
    show polR (a.delete k c).1 _ ∧ (a.delete k c).2 = _
    rw [Policy.delete_eq]; exact ⟨⟨rfl, h2⟩, rfl⟩
  flush := by
    rintro a _ n t ⟨rfl, h2⟩ -
    exact ⟨rfl, h2⟩

/-- a limit no 64-bit counter can exceed, nothing on the victim tape, nothing evicted so far -/
def Policy.Unreachable (p : Policy) : Prop := U64 ≤ p.limit + 1 ∧ p.tape = [] ∧ p.bad = false

theorem policy_unreachable : Pres polOps Policy.Unreachable where
  get := fun _ _ _ h => h
  delete := by
    intro a k c h
    show (a.delete k c).1.Unreachable
    rw [Policy.delete_eq]; exact h
  flush := fun _ _ _ h => h
  set := by
    intro a n k r ⟨h1, h2, h3⟩
    have hle : wadd a.usage r.len ≤ a.limit := Nat.le_of_lt_succ (Nat.lt_of_lt_of_le (wadd_lt ..) h1)
    show (a.set n k r).1.Unreachable
    rw [Policy.set_of_le a n k r h2 hle]; exact ⟨h1, h2, h3⟩

end Memc

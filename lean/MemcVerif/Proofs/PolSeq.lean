import MemcVerif.Model.PolConc
import MemcVerif.Proofs.PolConc
/-! The two models of `RandomPolicy::set` agree: the micro-step model (`Model/PolConc`) run by a single thread, with the
    victims of the tape as the scheduler's victim choices, ends where the sequential model (`Model/Policy`) ends,
    whenever the tape is one the loop could have produced (`bad = false`) and the `fetch_add` does not wrap (the
    micro-step model would raise `overflow`, which the sequential one does not have). -/
namespace Memc

/-- the schedule of one thread that evicts the victims of `tape` in order and then finishes its store -/
def seqSched (tape : List Key) : List (Nat × Option Key) :=
  (tape.flatMap fun v => [(0, none), (0, some v), (0, none)]) ++ [(0, none), (0, none), (0, none)]

def oneThread (inner : MemStore) (usage limit : Nat) (t : PThread) (racy overflow : Bool) : PSys :=
  { inner := inner, usage := usage, limit := limit, threads := [t], racy := racy, overflow := overflow }

/-- a single thread has no other thread to wait for -/
theorem othersIdle_single (inner : MemStore) (usage limit : Nat) (t : PThread) (racy overflow : Bool) :
    PSys.othersIdle { inner := inner, usage := usage, limit := limit, threads := [t], racy := racy, overflow := overflow } 0 =
      true := rfl

section
variable {inner : MemStore} {usage limit now : Nat} {k : Key} {r : Record} {res : List CRes} {racy overflow : Bool}

/-! One turn of the loop is three steps of the single thread: the test, then `remove_if` and `fetch_sub`, or the reset
    and `store.set`, or `store.set` and two steps that find nothing left to do. -/

theorem run_evict {u : Nat} {v : Key} {vr : Record} (hg : u > limit) (he : inner.len ≠ 0)
    (hl : inner.mem.lookup v = some vr) :
    (oneThread inner usage limit ⟨[], .looping k r u, res⟩ racy overflow).run now [(0, none), (0, some v), (0, none)] =
      oneThread { inner with mem := inner.mem.erase v } (wsub usage vr.len) limit
        ⟨[], .looping k r (wsub usage vr.len), res⟩ racy overflow := by
  simp only [PSys.run, List.foldl, PSys.step, oneThread, List.getElem?_cons_zero, PSys.stepThread, List.set_cons_zero,
    hg, he, hl, ↓reduceIte]

theorem run_reset (hg : usage > limit) (he : inner.len = 0) :
    (oneThread inner usage limit ⟨[], .looping k r usage, res⟩ racy overflow).run now [(0, none), (0, none), (0, none)] =
      oneThread (inner.set now k r).1 (wsub usage (wsub usage r.len)) limit
        ⟨[], .idle, res ++ [resOfCas (inner.set now k r).2]⟩ racy overflow := by
  simp only [PSys.run, List.foldl, PSys.step, oneThread, List.getElem?_cons_zero, PSys.stepThread, List.set_cons_zero,
    hg, he, ↓reduceIte, othersIdle_single, decide_true, Bool.and_self, Bool.not_true, Bool.or_false]

theorem run_stop {u : Nat} (hg : ¬ u > limit) :
    (oneThread inner usage limit ⟨[], .looping k r u, res⟩ racy overflow).run now [(0, none), (0, none), (0, none)] =
      oneThread (inner.set now k r).1 usage limit ⟨[], .idle, res ++ [resOfCas (inner.set now k r).2]⟩ racy overflow := by
  simp only [PSys.run, List.foldl, PSys.step, oneThread, List.getElem?_cons_zero, PSys.stepThread, List.set_cons_zero,
    hg, ↓reduceIte]

end

-- `u` (the loop's local copy) is kept apart from `p.usage` so that `fun_induction` can generalise it; run by one
-- thread the two are equal (`hu`)
theorem loop_agree (now : Nat) (k : Key) (r : Record) (res : List CRes) (racy overflow : Bool)
    (tape : List Key) (p : Policy) (u : Nat) (hu : u = p.usage) (hb : (Policy.evictLoop r.len tape p u).bad = false) :
    (oneThread p.inner p.usage p.limit ⟨[], .looping k r u, res⟩ racy overflow).run now (seqSched tape) =
      oneThread ((Policy.evictLoop r.len tape p u).inner.set now k r).1 (Policy.evictLoop r.len tape p u).usage p.limit
        ⟨[], .idle, res ++ [resOfCas ((Policy.evictLoop r.len tape p u).inner.set now k r).2]⟩ racy overflow := by
  fun_induction Policy.evictLoop r.len tape p u with
  | case1 tape p u hg he =>
    obtain ⟨_, rfl⟩ : p.bad = false ∧ tape = [] := by simpa using hb
    subst hu
    exact run_reset hg he
  | case2 | case3 => cases hb
  | case4 p u hg he v rest vr hl u' ih =>
    rw [seqSched, List.flatMap_cons, List.append_assoc, PSys.run_append, run_evict hg he hl]
    exact ih rfl hb
  | case5 tape p u hg =>
    obtain ⟨_, rfl⟩ : p.bad = false ∧ tape = [] := by simpa using hb
    exact run_stop hg

theorem set_agree (inner : MemStore) (usage limit now : Nat) (k : Key) (r : Record) (tape : List Key)
    (hno : usage + r.len < U64)
    (hb : ((⟨inner, usage, limit, tape, false⟩ : Policy).set now k r).1.bad = false) :
    (oneThread inner usage limit ⟨[.set k r], .idle, []⟩ false false).run now ((0, none) :: seqSched tape) =
      oneThread ((⟨inner, usage, limit, tape, false⟩ : Policy).set now k r).1.inner
        ((⟨inner, usage, limit, tape, false⟩ : Policy).set now k r).1.usage limit
        ⟨[], .idle, [resOfCas ((⟨inner, usage, limit, tape, false⟩ : Policy).set now k r).2]⟩ false false := by
  have h1 : (oneThread inner usage limit ⟨[.set k r], .idle, []⟩ false false).step now 0 none =
      oneThread inner (wadd usage r.len) limit ⟨[], .looping k r (wadd usage r.len), []⟩ false false := by
    simp only [PSys.step, oneThread, List.getElem?_cons_zero, PSys.stepThread, List.set_cons_zero, Nat.not_le.mpr hno,
      decide_false, Bool.or_self]
  rw [PSys.run_cons, h1]
  dsimp only [Policy.set, Policy.incrMemUsage] at hb ⊢
  exact loop_agree now k r [] false false tape ⟨inner, wadd usage r.len, limit, tape, false⟩ _ rfl hb

end Memc

import MemcVerif.Model.Timed
/-! The two cases of `tfeed` in which the timer has not fired — the connection is already closed, or the bytes arrive in
    time — and a closed connection over a whole sequence of arrivals. -/
namespace Memc

variable {σ : Type} (C : CacheOps σ) {limit rx now t : Nat} {tc : TConn} {s : σ} {chunk : Bytes}

theorem tfeed_closed (hc : tc.conn.closed = true) : tfeed C limit rx now t tc s chunk = (tc, s, []) := by
  rw [tfeed, if_pos hc]

theorem tfeed_in_time (hc : tc.conn.closed = false) (ht : t < tc.deadline) :
    tfeed C limit rx now t tc s chunk =
      (⟨(feed C limit now tc.conn s chunk).1,
        if (drain limit tc.conn.pst (tc.conn.buf ++ chunk)).1.length = 0 then tc.deadline else t + rx⟩,
       (feed C limit now tc.conn s chunk).2) := by
  rw [tfeed, if_neg (Bool.eq_false_iff.1 hc), if_neg (Nat.not_le.2 ht)]

theorem tfeedSeq_closed (hc : tc.conn.closed = true) (as : List (Nat × Nat × Bytes)) :
    tfeedSeq C limit rx tc s as = (tc, s, List.replicate as.length []) := by
  induction as with
  | nil => rfl
  | cons a rest ih => rw [tfeedSeq, tfeed_closed C hc, ih]; rfl

end Memc

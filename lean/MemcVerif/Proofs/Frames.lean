import MemcVerif.Proofs.Conn
/-! What the decoder does with one complete frame at the head of the buffer. -/
namespace Memc

/-- `fb` is exactly one frame: 24 header octets announcing `h`, followed by `h.bodyLen` body octets -/
structure IsFrame (fb : Bytes) (h : ReqHeader) : Prop where
  len : fb.length = HEADER_LEN + h.bodyLen
  hdr : parseHeader fb = h

/-- the event a frame stands for -/
def frameEv (limit : Nat) (fb : Bytes) (h : ReqHeader) : Ev :=
  if h.bodyLen > limit then .frame (.tooLarge h)
  else match parseBody h (fb.drop HEADER_LEN) with
    | some r => .frame r
    | none => .protoErr

/-- acceptable: the header is valid, and the body is above the limit (it will be refused) or parses -/
def frameOK (limit : Nat) (fb : Bytes) (h : ReqHeader) : Bool :=
  headerValid h && (h.bodyLen > limit || (parseBody h (fb.drop HEADER_LEN)).isSome)

/-- a complete acceptable frame at the head of the buffer is handed over as its event (the request its body parses
    to, or the refusal of a body above the limit) and exactly its bytes are consumed -/
theorem decode1_frame (limit : Nat) {fb : Bytes} {h : ReqHeader} (hf : IsFrame fb h) (rest : Bytes)
    (hok : frameOK limit fb h = true) : decode1 limit .idle (fb ++ rest) = .emit (frameEv limit fb h) .idle rest := by
  have h24 : HEADER_LEN ≤ fb.length := hf.len ▸ Nat.le_add_right ..
  have hb : (fb.drop HEADER_LEN).length = h.bodyLen := by rw [List.length_drop, hf.len, Nat.add_sub_cancel_left]
  simp only [frameOK, Bool.and_eq_true, Bool.or_eq_true, decide_eq_true_eq, Option.isSome_iff_exists] at hok
  obtain ⟨hv, hcase⟩ := hok
  rw [decode1_idle_append rest h24 (hf.hdr ▸ hv), hf.hdr, decode1_hdr, frameEv]
  have hbr : h.bodyLen ≤ (fb.drop HEADER_LEN ++ rest).length := le_length_append (Nat.le_of_eq hb.symm) rest
  by_cases hl : limit < h.bodyLen
  · rw [if_pos hl, if_pos hl, (Decode1.skipped hbr).eq, List.drop_left' hb]
  · obtain ⟨r, hp⟩ := hcase.resolve_left hl
    rw [if_neg hl, if_neg hl, if_neg (Nat.not_lt.2 hbr), List.take_left' hb, List.drop_left' hb, hp]

theorem drain_frame (limit : Nat) {fb : Bytes} {h : ReqHeader} (hf : IsFrame fb h) (rest : Bytes)
    (hok : frameOK limit fb h = true) :
    drain limit .idle (fb ++ rest) = (frameEv limit fb h :: (drain limit .idle rest).1, (drain limit .idle rest).2) := by
  rw [drain_eq, decode1_frame limit hf rest hok]

/-- a pipeline of complete, acceptable frames followed by anything: the frames' events in order, then
    whatever the tail decodes to -/
theorem drain_frames (limit : Nat) (frames : List (Bytes × ReqHeader)) (tail : Bytes)
    (hall : ∀ f ∈ frames, IsFrame f.1 f.2 ∧ frameOK limit f.1 f.2 = true) :
    drain limit .idle ((frames.map (·.1)).flatten ++ tail) =
      (frames.map (fun f => frameEv limit f.1 f.2) ++ (drain limit .idle tail).1, (drain limit .idle tail).2) := by
  induction frames with
  | nil => rfl
  | cons f rest ih =>
    obtain ⟨hf, hok⟩ := hall f (List.mem_cons_self ..)
    rw [List.map_cons, List.flatten_cons, List.append_assoc, drain_frame limit hf _ hok,
      ih fun g hg => hall g (List.mem_cons_of_mem _ hg)]
    rfl

theorem drain_frames_nil (limit : Nat) (frames : List (Bytes × ReqHeader))
    (hall : ∀ f ∈ frames, IsFrame f.1 f.2 ∧ frameOK limit f.1 f.2 = true) :
    drain limit .idle (frames.map (·.1)).flatten = (frames.map (fun f => frameEv limit f.1 f.2), .idle, []) := by
  have := drain_frames limit frames [] hall
  rwa [List.append_nil, drain_idle_nil, List.append_nil] at this

end Memc

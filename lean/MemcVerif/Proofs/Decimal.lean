import MemcVerif.Model.Bytes
/-! `parseU64 (toDec n) = some n`: the text a counter update stores parses back to the number returned. -/
namespace Memc

/-- value of a digit string (most significant first), starting from accumulator `a` -/
def valOf (ds : Bytes) (a : Nat) : Nat := ds.foldl (fun acc b => acc * 10 + (b.toNat - 48)) a

@[simp] theorem valOf_nil (a : Nat) : valOf [] a = a := by simp [valOf]
@[simp] theorem valOf_cons (b : UInt8) (t : Bytes) (a : Nat) : valOf (b :: t) a = valOf t (a * 10 + (b.toNat - 48)) := by
  simp [valOf]

theorem valOf_append (a b : Bytes) (x : Nat) : valOf (a ++ b) x = valOf b (valOf a x) :=
  List.foldl_append

theorem valOf_ge (ds : Bytes) (a : Nat) : a ≤ valOf ds a := by
  induction ds generalizing a with
  | nil => simp
  | cons b t ih =>
    rw [valOf_cons]
    calc a ≤ a * 10 := Nat.le_mul_of_pos_right a (by decide)
      _ ≤ a * 10 + (b.toNat - 48) := Nat.le_add_right ..
      _ ≤ valOf t (a * 10 + (b.toNat - 48)) := ih _

/-- what `parseDigits` accepts (Rust's checked accumulate): the strings of digits whose value stays in u64 -/
theorem parseDigits_eq_some {ds : Bytes} {a n : Nat} (ha : a < U64) :
    parseDigits ds a = some n ↔ (∀ b ∈ ds, isDigit b = true) ∧ valOf ds a = n ∧ n < U64 := by
  induction ds generalizing a with
  | nil =>
    rw [parseDigits, valOf_nil, Option.some.injEq]
    exact ⟨fun h => ⟨nofun, h, h ▸ ha⟩, fun h => h.2.1⟩
  | cons b t ih =>
    rw [parseDigits, valOf_cons, List.forall_mem_cons]
    by_cases hb : isDigit b = true
    · by_cases hlt : a * 10 + (b.toNat - 48) < U64
      · simp only [hb, hlt, if_true, ih hlt, true_and]
      · -- the accumulator never decreases: once past u64 it stays there
        simp only [hb, hlt, if_true, if_false, reduceCtorEq, false_iff]
        exact fun h => hlt (Nat.lt_of_le_of_lt (valOf_ge t _) (h.2.1 ▸ h.2.2))
    · simp only [hb, Bool.false_eq_true, if_false, reduceCtorEq, false_and]

theorem digit_toNat (n : Nat) : (UInt8.ofNat (48 + n % 10)).toNat = 48 + n % 10 := by
  rw [UInt8.toNat_ofNat']
  exact Nat.mod_eq_of_lt (by omega)

theorem digit_isDigit (n : Nat) : isDigit (UInt8.ofNat (48 + n % 10)) = true := by
  simp only [isDigit, digit_toNat, Bool.and_eq_true, decide_eq_true_eq]
  exact ⟨Nat.le_add_right .., by omega⟩

/-- `toDecAux` puts the digits of `n` in front of `acc`: read from 0 they lead to `n`, where `acc` goes on -/
theorem toDecAux_spec (fuel n : Nat) (acc : Bytes) (hf : n < fuel) (hacc : ∀ b ∈ acc, isDigit b = true) :
    valOf (toDecAux fuel n acc) 0 = valOf acc n ∧ (∀ b ∈ toDecAux fuel n acc, isDigit b = true) ∧
      toDecAux fuel n acc ≠ [] := by
  induction fuel generalizing n acc with
  | zero => exact absurd hf (Nat.not_lt_zero n)
  | succ f ih =>
    have last : valOf (UInt8.ofNat (48 + n % 10) :: acc) (n / 10) = valOf acc n := by
      rw [valOf_cons, digit_toNat, Nat.add_sub_cancel_left, Nat.div_add_mod']
    have hacc' : ∀ b ∈ UInt8.ofNat (48 + n % 10) :: acc, isDigit b = true :=
      List.forall_mem_cons.mpr ⟨digit_isDigit n, hacc⟩
    rw [toDecAux]
    split
    · exact ⟨‹n / 10 = 0› ▸ last, hacc', List.cons_ne_nil _ _⟩
    · obtain ⟨h1, h2, h3⟩ := ih (n / 10) _ (by omega) hacc'
      exact ⟨h1.trans last, h2, h3⟩

theorem toDec_spec (n : Nat) :
    valOf (toDec n) 0 = n ∧ (∀ b ∈ toDec n, isDigit b = true) ∧ toDec n ≠ [] :=
  toDecAux_spec (n + 1) n [] (Nat.lt_succ_self n) fun _ h => absurd h List.not_mem_nil

theorem parseU64_digits (ds : Bytes) (hne : ds ≠ []) (hd : ∀ b ∈ ds, isDigit b = true) (hv : valOf ds 0 < U64) :
    parseU64 ds = some (valOf ds 0) := by
  cases ds with
  | nil => exact absurd rfl hne
  | cons b t =>
    have h43 : b ≠ 43 := fun e => by
      rw [e] at hd
      exact absurd (hd 43 (List.mem_cons_self ..)) (by decide)
    rw [parseU64, if_neg h43]
    exact (parseDigits_eq_some (by decide)).2 ⟨hd, rfl, hv⟩

theorem parseU64_toDec (n : Nat) (h : n < U64) : parseU64 (toDec n) = some n := by
  obtain ⟨hv, hd, hne⟩ := toDec_spec n
  rw [parseU64_digits _ hne hd (hv.symm ▸ h), hv]

theorem parseU64_empty : parseU64 [] = none := rfl

theorem parseU64_nondigit (b : UInt8) (t : Bytes) (hb : b ≠ 43) (h : ∃ x ∈ b :: t, isDigit x = false) :
    parseU64 (b :: t) = none := by
  rw [parseU64, if_neg hb]
  obtain ⟨x, hx, hxd⟩ := h
  exact Option.eq_none_iff_forall_ne_some.2 fun n hn =>
    absurd (((parseDigits_eq_some (by decide)).1 hn).1 x hx) (by rw [hxd]; decide)

theorem parseU64_lt (v : Bytes) (n : Nat) : parseU64 v = some n → n < U64 := by
  -- `parseU64` answers `none` (nothing, or a sign only) or what `parseDigits` answers from 0
  fun_cases parseU64 v with
  | case1 | case2 => exact nofun
  | case3 | case4 => exact fun h => ((parseDigits_eq_some (by decide)).1 h).2.2

end Memc

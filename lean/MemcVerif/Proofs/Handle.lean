import MemcVerif.Model.Ops
/-! `BinaryHandler::handle_request` over **any** cache is: run the store command the request stands for (`execOp` of
    `reqOp req`: `applyOp` with the cache as a parameter), then build the response from its result alone (`respond`).
    What the handler does to the cache is therefore a statement about one command — a `get`, a `set`, a `delete`, a
    `flush`, or one `get` followed by at most one `set` (`getThen`, as `Op.next` says) — and what it answers is a statement about `respond`,
    in which no cache occurs. -/
namespace Memc

/-- how the handler turns a command's result into what is written back (the arms for a result of another
    command's kind — `internalError`, for a delete a plain success — are never reached: `reqOp` fixes the kind) -/
def respond (req : Req) (res : Res) : Option Resp :=
  let h := req.header
  let rh : RespHeader := { opcode := h.opcode, opaq := h.opaq }
  match req with
  | .get _ key =>
    let resp : Resp := match res with
      | .record rec =>
        let k : Bytes := if getKeyOp h.opcode then key else []
        .get { rh with bodyLen := rec.value.length + 4 + k.length, keyLen := k.length, extrasLen := 4, cas := rec.header.cas }
          rec.header.flags k rec.value
      | .err e => errorResp e rh
      | _ => errorResp .internalError rh
    if quietGetOp h.opcode then intoQuietGet resp else some resp
  | .delete _ _ =>
    let resp : Resp := match res with
      | .err e => errorResp e rh
      | _ => .plain rh
    if quietDeleteOp h.opcode then intoQuietMutation resp else some resp
  | .set _ _ _ _ _ =>
    let resp : Resp := match res with
      | .stored c => .plain { rh with cas := c }
      | .err e => errorResp e rh
      | _ => errorResp .internalError rh
    if quietSetOp h.opcode then intoQuietMutation resp else some resp
  | .append _ _ _ =>
    let resp : Resp := match res with
      | .stored c => .plain { rh with cas := c }
      | .err e => errorResp e rh
      | _ => errorResp .internalError rh
    if quietAppendOp h.opcode then intoQuietMutation resp else some resp
  | .delta _ _ _ _ _ =>
    let resp : Resp := match res with
      | .counter d => .counter { rh with bodyLen := 8, cas := d.cas } d.value
      | .err e => errorResp e rh
      | _ => errorResp .internalError rh
    if quietDeltaOp h.opcode then intoQuietMutation resp else some resp
  | .headerOnly _ =>
    if h.opcode = 0x0a then some (.plain rh)
    else if h.opcode = 0x07 then some (.quit rh)
    else if h.opcode = 0x17 then none
    else some (.version { rh with bodyLen := VERSION.length } VERSION)
  | .flush _ _ => if quietFlushOp h.opcode then none else some (.plain rh)
  | .tooLarge _ => some (errorResp .valueTooLarge rh)
  | .notSupported _ => some (errorResp .notSupported rh)

theorem respond_headerOnly (hd : ReqHeader) (res : Res) :
    respond (.headerOnly hd) res =
      if hd.opcode = 0x0a then some (.plain { opcode := hd.opcode, opaq := hd.opaq })
      else if hd.opcode = 0x07 then some (.quit { opcode := hd.opcode, opaq := hd.opaq })
      else if hd.opcode = 0x17 then none
      else some (.version { opcode := hd.opcode, opaq := hd.opaq, bodyLen := VERSION.length } VERSION) := rfl

/-! ## the quiet filters pass a response on unchanged or drop it -/

theorem intoQuietGet_some {r r' : Resp} (h : intoQuietGet r = some r') : r' = r := by
  unfold intoQuietGet at h
  split at h
  · split at h
    · cases h
    · exact (Option.some.inj h).symm
  · exact (Option.some.inj h).symm

theorem intoQuietMutation_some {r r' : Resp} (h : intoQuietMutation r = some r') : r' = r := by
  cases r <;> cases h <;> rfl

theorem quietGet_some {q : Bool} {r r' : Resp} (h : (if q = true then intoQuietGet r else some r) = some r') : r' = r := by
  cases q
  · exact (Option.some.inj h).symm
  · exact intoQuietGet_some h

theorem quietMutation_some {q : Bool} {r r' : Resp}
    (h : (if q = true then intoQuietMutation r else some r) = some r') : r' = r := by
  cases q
  · exact (Option.some.inj h).symm
  · exact intoQuietMutation_some h

section
variable {σ : Type} (C : CacheOps σ)

/-- the shape shared by every `MemcStore` command: one `get`, then, as `next` decides from its result, the answer at once or
    one `set` and the answer from that -/
def getThen {α : Type} (s : σ) (now : Nat) (k : Key)
    (next : Except CacheError Record → α ⊕ Record × (Except CacheError Nat → α)) : σ × α :=
  let x := C.get s now k
  match next x.2 with
  | .inl a => (x.1, a)
  | .inr (r, fin) => let y := C.set x.1 now k r; (y.1, fin y.2)

/-- the results of `get`, `add_delta` and `delete` as a `Res`, as `Res.ofCas` does it for `set` -/
def Res.ofGet : Except CacheError Record → Res
  | .ok r => .record r
  | .error e => .err e

def Res.ofDelta : Except CacheError DeltaResult → Res
  | .ok d => .counter d
  | .error e => .err e

def Res.ofDelete : Except CacheError Record → Res
  | .ok _ => .deleted
  | .error e => .err e

/-- `applyOp` with the cache as a parameter: what `MemcStore` does for one command, and its result -/
def execOp (s : σ) (now : Nat) : Op → σ × Res
  | .get k => let x := C.get s now k; (x.1, .ofGet x.2)
  | .set k r => let x := C.set s now k r; (x.1, .ofCas x.2)
  | .add k r => let x := Cmd.add C s now k r; (x.1, .ofCas x.2)
  | .replace k r => let x := Cmd.replace C s now k r; (x.1, .ofCas x.2)
  | .append k r => let x := Cmd.append C s now k r; (x.1, .ofCas x.2)
  | .prepend k r => let x := Cmd.prepend C s now k r; (x.1, .ofCas x.2)
  | .delta k h d i inc => let x := Cmd.addDelta C s now h k d i inc; (x.1, .ofDelta x.2)
  | .delete k cas => let x := C.delete s k cas; (x.1, .ofDelete x.2)
  | .flush ttl => (C.flush s now ttl, .unit)
  | .nop => (s, .unit)

end

/-- how a command goes on once its `get` has answered — the `match` on that answer in `MemcStore`'s source, read as data:
    the result at once, or the record to store and the result from the answer of that `set` (the last arm is the `get`
    command; for a bare `set`, `delete` or `flush` the value is not used) -/
def Op.next (op : Op) (res : Except CacheError Record) : Res ⊕ Record × (Except CacheError Nat → Res) :=
  match op with
  | .add _ r => match res with | .ok _ => .inl (.err .keyExists) | .error _ => .inr (r, .ofCas)
  | .replace _ r => match res with | .ok _ => .inr (r, .ofCas) | .error _ => .inl (.err .notFound)
  | .append _ nr => match res with
    | .ok rec => .inr ({ header := { rec.header with cas := nr.header.cas }, value := rec.value ++ nr.value }, .ofCas)
    | .error _ => .inl (.err .notFound)
  | .prepend _ nr => match res with
    | .ok rec => .inr ({ header := { rec.header with cas := nr.header.cas }, value := nr.value ++ rec.value }, .ofCas)
    | .error _ => .inl (.err .notFound)
  | .delta _ h d i inc => match res with
    | .ok rec => match parseU64 rec.value with
      | none => .inl (.err .arithOnNonNumeric)
      | some v =>
        let v' := if inc then (v + d) % U64 else if d > v then 0 else v - d
        .inr ({ header := { h with flags := rec.header.flags }, value := toDec v' }, fun sres => .ofDelta (sres.map (⟨·, v'⟩)))
    | .error _ =>
      if h.ttl ≠ 0xffffffff then .inr (Record.new (toDec i) 0 0 h.ttl, fun sres => .ofDelta (sres.map (⟨·, i⟩)))
      else .inl (.err .notFound)
  | _ => .inl (.ofGet res)

/-- every command but a bare `set`, `delete` or `flush` is its `get` and then what `Op.next` says, whatever the cache -/
theorem execOp_getThen {σ : Type} (C : CacheOps σ) (s : σ) (now : Nat) {op : Op} {k : Key} (hk : op.key = some k)
    (hs : ∀ r, op ≠ .set k r) (hd : ∀ c, op ≠ .delete k c) : execOp C s now op = getThen C s now k op.next := by
  cases op with
  | flush | nop => cases hk
  | set k0 r => cases hk; exact absurd rfl (hs r)
  | delete k0 c => cases hk; exact absurd rfl (hd c)
  | get k0 => cases hk; rfl
  | add k0 r | replace k0 r | append k0 r | prepend k0 r =>
    cases hk
    dsimp only [execOp, Cmd.add, Cmd.replace, Cmd.append, Cmd.prepend, getThen]
    rcases C.get s now k with ⟨s', _ | _⟩ <;> rfl
  | delta k0 h d i inc =>
    cases hk
    dsimp only [execOp, Cmd.addDelta, getThen, Op.next]
    rcases C.get s now k with ⟨s', _ | rec⟩ <;> dsimp only
    · split
      · dsimp only
        rcases C.set s' now k _ with ⟨s'', _ | _⟩ <;> rfl
      · rfl
    · cases parseU64 rec.value with
      | none => rfl
      | some v => dsimp only; rcases C.set s' now k _ with ⟨s'', _ | _⟩ <;> rfl

/-- `next` is chosen before the cache: it does not depend on it -/
theorem execOp_shape (op : Op) :
    (∃ k next, ∀ {σ : Type} (C : CacheOps σ) (s : σ) (now : Nat), execOp C s now op = getThen C s now k next) ∨
    (∃ k r, op = .set k r) ∨ (∃ k c, op = .delete k c) ∨ (∃ t, op = .flush t) ∨ op = .nop := by
  cases op with
  | set k r => exact .inr (.inl ⟨k, r, rfl⟩)
  | delete k c => exact .inr (.inr (.inl ⟨k, c, rfl⟩))
  | flush t => exact .inr (.inr (.inr (.inl ⟨t, rfl⟩)))
  | nop => exact .inr (.inr (.inr (.inr rfl)))
  | _ => exact .inl ⟨_, _, fun C s now => execOp_getThen C s now rfl nofun nofun⟩

theorem memOps_get : memOps.get = MemStore.get := rfl
theorem memOps_set : memOps.set = MemStore.set := rfl
theorem memOps_delete : memOps.delete = MemStore.delete := rfl
theorem memOps_flush : memOps.flush = MemStore.flush := rfl

theorem execOp_memOps (s : MemStore) (now : Nat) (op : Op) : execOp memOps s now op = applyOp s now op := by
  cases op with
  | get k => dsimp only [execOp, applyOp, memOps_get]; rcases s.get now k with ⟨s', _ | _⟩ <;> rfl
  | delta k h d i inc => dsimp only [execOp, applyOp]; rcases Cmd.addDelta memOps s now h k d i inc with ⟨s', _ | _⟩ <;> rfl
  | delete k cas => dsimp only [execOp, applyOp, memOps_delete]; rcases s.delete k cas with ⟨s', _ | _⟩ <;> rfl
  | _ => rfl

theorem handleRequest_execOp {σ : Type} (C : CacheOps σ) (s : σ) (now : Nat) (req : Req) :
    handleRequest C s now req = ((execOp C s now (reqOp req)).1, respond req (execOp C s now (reqOp req)).2) := by
  cases req with
  | get hd key =>
    rw [handleRequest, reqOp, execOp]
    rcases C.get s now key with ⟨s', _ | _⟩ <;> rfl
  | delete hd key =>
    rw [handleRequest, reqOp, execOp]
    rcases C.delete s key _ with ⟨s', _ | _⟩ <;> rfl
  | set hd flags exp key value =>
    dsimp only [handleRequest, reqOp, Req.header]
    -- the opcode picks the same command in the handler and in `reqOp`
    by_cases h1 : isSetOp hd.opcode = true
    · simp only [h1, if_true, execOp]
      rcases C.set s now key _ with ⟨s', _ | _⟩ <;> rfl
    · by_cases h2 : isAddOp hd.opcode = true
      · simp only [h1, h2, if_true, Bool.false_eq_true, if_false, execOp]
        rcases Cmd.add C s now key _ with ⟨s', _ | _⟩ <;> rfl
      · simp only [h1, h2, Bool.false_eq_true, if_false, execOp]
        rcases Cmd.replace C s now key _ with ⟨s', _ | _⟩ <;> rfl
  | append hd key value =>
    dsimp only [handleRequest, reqOp, Req.header]
    by_cases h1 : isAppendOp hd.opcode = true
    · simp only [h1, if_true, execOp]
      rcases Cmd.append C s now key _ with ⟨s', _ | _⟩ <;> rfl
    · simp only [h1, Bool.false_eq_true, if_false, execOp]
      rcases Cmd.prepend C s now key _ with ⟨s', _ | _⟩ <;> rfl
  | delta hd d i exp key =>
    rw [handleRequest, reqOp, execOp]
    rcases Cmd.addDelta C s now _ key d i _ with ⟨s', _ | _⟩ <;> rfl
  | headerOnly hd =>
    -- the handler chooses a pair per opcode, `respond` an answer: move the pairing into the choice
    show _ = Prod.mk s (respond _ _)
    simp only [respond_headerOnly, apply_ite (Prod.mk s)]
    rfl
  | flush hd exp => rfl
  | tooLarge hd => rfl
  | notSupported hd => rfl
end Memc

import MemcVerif.Model.Conc
/-! The micro-step model call by call: one equation of `Thread.step` for each kind of call a thread can make next. -/
namespace Memc

theorem snoc_induction {α : Type} {P : List α → Prop} (h0 : P []) (h1 : ∀ l a, P l → P (l ++ [a])) (l : List α) : P l := by
  rw [← List.reverse_reverse l]
  induction l.reverse with
  | nil => exact h0
  | cons a l ih =>
    rw [List.reverse_cons]
    exact h1 _ _ ih

/-- the answer of `Cache::delete` as the client sees it -/
def delRes : Except CacheError Record → CRes
  | .ok _ => .deleted
  | .error e => .err e

/-- every command but the single-call ones (set, delete, flush) begins with the two calls of `Cache::get` -/
def CCmd.getFirst (c : CCmd) : Prop :=
  (∀ k r, c ≠ .set k r) ∧ (∀ k cas, c ≠ .delete k cas) ∧ (∀ ttl, c ≠ .flush ttl)

theorem CCmd.kinds (c : CCmd) :
    (∃ k r, c = .set k r) ∨ (∃ k cas, c = .delete k cas) ∨ (∃ ttl, c = .flush ttl) ∨ c.getFirst := by
  cases c with
  | set k r => exact .inl ⟨k, r, rfl⟩
  | delete k cas => exact .inr (.inl ⟨k, cas, rfl⟩)
  | flush ttl => exact .inr (.inr (.inl ⟨ttl, rfl⟩))
  | _ => exact .inr (.inr (.inr ⟨fun _ _ => CCmd.noConfusion, fun _ _ => CCmd.noConfusion, fun _ => CCmd.noConfusion⟩))

namespace Thread
variable {s : MemStore} {now : Nat} {todo rest : List CCmd} {rs : List CRes} {c : CCmd}

theorem step_nil : step ⟨[], .idle, rs⟩ s now = (s, ⟨[], .idle, rs⟩) := rfl

theorem step_set {k : Key} {r : Record} :
    step ⟨.set k r :: rest, .idle, rs⟩ s now = ((s.set now k r).1, ⟨rest, .idle, rs ++ [resOfCas (s.set now k r).2]⟩) := rfl

theorem step_delete {k : Key} {cas : Nat} :
    step ⟨.delete k cas :: rest, .idle, rs⟩ s now = ((s.delete k cas).1, ⟨rest, .idle, rs ++ [delRes (s.delete k cas).2]⟩) := rfl

theorem step_flush {ttl : Nat} :
    step ⟨.flush ttl :: rest, .idle, rs⟩ s now = (s.flush now ttl, ⟨rest, .idle, rs ++ [.done]⟩) := rfl

/-- first call of `Cache::get`: the snapshot; a miss already is the get's answer -/
theorem step_getFirst (hc : c.getFirst) :
    step ⟨c :: rest, .idle, rs⟩ s now =
      match s.getByKey c.key with
      | .ok snap => (s, ⟨rest, .snapped c snap, rs⟩)
      | .error _ => afterFound ⟨rest, .idle, rs⟩ s now c none := by
  cases c with
  | set k r => exact absurd rfl (hc.1 k r)
  | delete k cas => exact absurd rfl (hc.2.1 k cas)
  | flush ttl => exact absurd rfl (hc.2.2 ttl)
  | _ => rfl

/-- second call of `Cache::get` (`afterFound` sets the phase itself, whatever it is handed) -/
theorem step_snapped {snap : Record} :
    step ⟨todo, .snapped c snap, rs⟩ s now =
      afterFound ⟨todo, .idle, rs⟩ (s.checkIfExpired now c.key snap).1 now c
        (if (s.checkIfExpired now c.key snap).2 then none else some snap) := rfl

theorem step_decided {found : Option Record} :
    step ⟨todo, .decided c found, rs⟩ s now =
      ((afterGet s now c found).1, ⟨todo, .idle, rs ++ [(afterGet s now c found).2]⟩) := rfl

theorem finished_iff {t : Thread} : t.finished = true ↔ t.todo = [] ∧ t.phase = .idle := by
  simp [finished]

theorem step_finished {t : Thread} (h : t.finished = true) : t.step s now = (s, t) := by
  obtain ⟨todo, ph, rs⟩ := t
  obtain ⟨rfl, rfl⟩ := finished_iff.mp h
  exact step_nil

end Thread
end Memc

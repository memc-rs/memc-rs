import MemcVerif.Proofs.ToSeq
/-!
# A thread running alone performs the sequential command

Ties the micro-step model (`Conc`) to the sequential model (`applyOp`, `Cmd.*`): the calls of one command run back to
back (no foreign call in between) are exactly the one-at-a-time command. Here for the six kinds that begin with a `get`
(`runAlone_getFirst`, `afterGet_seq`); set, delete and flush are one call each (`runAlone_single`); C04 puts the nine together.
-/
namespace Memc
open MemStore

def Thread.runAlone : Nat → Thread → MemStore → Nat → MemStore × Thread
  | 0, t, s, _ => (s, t)
  | n + 1, t, s, now => let x := t.step s now; Thread.runAlone n x.2 x.1 now

/-- what `Cache::get` found, as the micro-step model records it -/
def foundOf : Except CacheError Record → Option Record
  | .ok r => some r
  | .error _ => none

theorem runAlone_done (n : Nat) (s : MemStore) (now : Nat) (rs : List CRes) :
    Thread.runAlone n ⟨[], .idle, rs⟩ s now = (s, ⟨[], .idle, rs⟩) := by
  induction n with
  | zero => rfl
  | succ n ih => rw [Thread.runAlone, Thread.step_nil]; exact ih

/-- the rest of a lone run once the command's `get` has answered: its store call, if it has one -/
theorem runAlone_afterFound (n : Nat) (s : MemStore) (now : Nat) (c : CCmd) (found : Option Record) :
    Thread.runAlone (n + 1) (Thread.afterFound ⟨[], .idle, []⟩ s now c found).2
        (Thread.afterFound ⟨[], .idle, []⟩ s now c found).1 now =
      ((afterGet s now c found).1, ⟨[], .idle, [(afterGet s now c found).2]⟩) := by
  rw [Thread.afterFound]
  split
  · exact runAlone_done n ..
  · exact runAlone_done (n + 1) ..

/-- a get-first command run alone: after its (at most three) calls the store and the answer are those of
    `afterGet` applied to the outcome of the sequential `get` -/
theorem runAlone_getFirst (s : MemStore) (now : Nat) (c : CCmd)
    (hc : ∀ k r, c ≠ .set k r) (hd : ∀ k cas, c ≠ .delete k cas) (hf : ∀ ttl, c ≠ .flush ttl) :
    Thread.runAlone 3 { todo := [c] } s now =
      ((afterGet (s.get now c.key).1 now c (foundOf (s.get now c.key).2)).1,
       { todo := [], phase := .idle, results := [(afterGet (s.get now c.key).1 now c (foundOf (s.get now c.key).2)).2] }) := by
  rw [Thread.runAlone, Thread.step_getFirst ⟨hc, hd, hf⟩, MemStore.get_calls]
  cases s.getByKey c.key with
  | error e => exact runAlone_afterFound 1 s now c none
  | ok snap =>
    dsimp only
    rw [Thread.runAlone, Thread.step_snapped]
    cases (s.checkIfExpired now c.key snap).2 <;> exact runAlone_afterFound 0 ..

theorem runAlone_single {n : Nat} {s s' : MemStore} {now : Nat} {c : CCmd} {r : CRes}
    (h : Thread.step ⟨[c], .idle, []⟩ s now = (s', ⟨[], .idle, [r]⟩)) :
    Thread.runAlone (n + 1) { todo := [c] } s now = (s', ⟨[], .idle, [r]⟩) := by
  rw [Thread.runAlone, h]
  exact runAlone_done n ..

/-- `afterGet` on the outcome of the sequential `get` is the sequential command -/
theorem afterGet_seq (s : MemStore) (now : Nat) (c : CCmd)
    (hc : ∀ k r, c ≠ .set k r) (hd : ∀ k cas, c ≠ .delete k cas) (hf : ∀ ttl, c ≠ .flush ttl) :
    (afterGet (s.get now c.key).1 now c (foundOf (s.get now c.key).2)).1 = (applyOp s now c.toOp).1 ∧
    (afterGet (s.get now c.key).1 now c (foundOf (s.get now c.key).2)).2.toRes = (applyOp s now c.toOp).2 := by
  cases c with
  | set k r => exact absurd rfl (hc k r)
  | delete k cas => exact absurd rfl (hd k cas)
  | flush ttl => exact absurd rfl (hf ttl)
  | get k =>
    -- `afterGet` answers every miss with 'not found': that `get` fails with nothing else is in `get_eq`
    dsimp only [CCmd.key, CCmd.toOp, applyOp]
    rw [get_eq]
    cases s.vis now k <;> exact ⟨rfl, rfl⟩
  -- the other kinds never look at the error: `afterGet` is what their `match` on the outcome of `get` goes on with
  | add k r =>
    dsimp only [CCmd.key, CCmd.toOp, applyOp, Cmd.add, memOps]
    rcases s.get now k with ⟨s', _ | _⟩
    · exact ⟨rfl, resOfCas_toRes _⟩
    · exact ⟨rfl, rfl⟩
  | replace k r | append k r | prepend k r =>
    dsimp only [CCmd.key, CCmd.toOp, applyOp, Cmd.replace, Cmd.append, Cmd.prepend, memOps]
    rcases s.get now k with ⟨s', _ | _⟩
    · exact ⟨rfl, rfl⟩
    · exact ⟨rfl, resOfCas_toRes _⟩
  | delta k h d i inc =>
    dsimp only [CCmd.key, CCmd.toOp, applyOp, Cmd.addDelta, memOps]
    rcases s.get now k with ⟨s', _ | x⟩
    · dsimp only [foundOf, afterGet]
      split
      · rcases s'.set now k _ with ⟨s'', _ | _⟩ <;> exact ⟨rfl, rfl⟩
      · exact ⟨rfl, rfl⟩
    · dsimp only [foundOf, afterGet]
      cases parseU64 x.value with
      | none => exact ⟨rfl, rfl⟩
      | some v =>
        dsimp only
        rcases s'.set now k _ with ⟨s'', _ | _⟩ <;> exact ⟨rfl, rfl⟩

end Memc

import MemcVerif.Model.Ops
import MemcVerif.Proofs.Mem
/-! What each call of `MemoryStore` does, in terms of `lookup` and of what is visible (`vis`): one case lemma or
    equation per call (`get_eq`, `set_cases`, `delete_cases`, `flush_lookup`), and from those the effect of every
    call on other keys, on the CAS counter, on the byte total and on `Mem.WF`. -/
namespace Memc

theorem Record.expired_iff (now : Nat) (r : Record) :
    r.expired now = true ↔ r.header.ttl ≠ 0 ∧ r.header.timestamp + r.header.ttl ≤ now := by
  simp [Record.expired]

theorem Record.expired_mono {r : Record} {t t' : Nat} (h : r.expired t = true) (hle : t ≤ t') : r.expired t' = true := by
  obtain ⟨h0, h1⟩ := (Record.expired_iff t r).mp h
  exact (Record.expired_iff t' r).mpr ⟨h0, Nat.le_trans h1 hle⟩

theorem Record.expired_eq_false_iff (now : Nat) (r : Record) :
    r.expired now = false ↔ r.header.ttl = 0 ∨ now < r.header.timestamp + r.header.ttl := by
  rw [← Bool.not_eq_true, Record.expired_iff, Decidable.not_and_iff_not_or_not, Decidable.not_not, Nat.not_le]

namespace MemStore

theorem vis_def (s : MemStore) (now : Nat) (k : Key) :
    s.vis now k = match s.mem.lookup k with
      | some r => if r.expired now then none else some r
      | none => none := rfl

theorem vis_eq_some_iff {s : MemStore} {now : Nat} {k : Key} {x : Record} :
    s.vis now k = some x ↔ s.mem.lookup k = some x ∧ x.expired now = false := by
  rw [vis_def]
  cases s.mem.lookup k with
  | none => simp
  | some r => by_cases he : r.expired now = true <;> simp [he] <;> intro h <;> simp [← h, he]

theorem vis_eq_none_iff {s : MemStore} {now : Nat} {k : Key} :
    s.vis now k = none ↔ ∀ x, s.mem.lookup k = some x → x.expired now = true := by
  rw [vis_def]
  cases s.mem.lookup k with
  | none => simp
  | some r => by_cases he : r.expired now = true <;> simp [he]

theorem vis_none_of_expired {s : MemStore} {now : Nat} {k : Key} {x : Record}
    (hl : s.mem.lookup k = some x) (he : x.expired now = true) : s.vis now k = none := by
  simp [vis_def, hl, he]

theorem vis_none_mono {s : MemStore} {t t' : Nat} {k : Key} (h : s.vis t k = none) (hle : t ≤ t') :
    s.vis t' k = none := by
  rw [vis_eq_none_iff] at *
  exact fun x hx => Record.expired_mono (h x hx) hle

theorem vis_lookup {s : MemStore} {now : Nat} {k : Key} {x : Record} (h : s.vis now k = some x) :
    s.mem.lookup k = some x := (vis_eq_some_iff.mp h).1

/-! ### `get`: collect the addressed record if it is expired, answer with what is visible -/

/-- lazy expiry as `Cache::get` performs it: the record of `k` is removed if its deadline has passed -/
def collect (s : MemStore) (now : Nat) (k : Key) : MemStore :=
  match s.mem.lookup k with
  | some cur => if cur.expired now then { s with mem := s.mem.erase k } else s
  | none => s

theorem collect_cases (s : MemStore) (now : Nat) (k : Key) :
    (s.collect now k = s ∧ s.vis now k = s.mem.lookup k) ∨
    (∃ cur, s.mem.lookup k = some cur ∧ cur.expired now = true ∧ s.vis now k = none ∧
      s.collect now k = { s with mem := s.mem.erase k }) := by
  unfold collect
  rw [vis_def]
  cases s.mem.lookup k with
  | none => exact Or.inl ⟨rfl, rfl⟩
  | some cur =>
    by_cases he : cur.expired now = true
    · exact Or.inr ⟨cur, rfl, he, by simp [he], by simp [he]⟩
    · exact Or.inl ⟨by simp [he], by simp [he]⟩

/-- `check_if_expired` decides on the snapshot it is handed and collects the *stored* record -/
theorem checkIfExpired_eq (s : MemStore) (now : Nat) (k : Key) (snap : Record) :
    s.checkIfExpired now k snap = (if snap.expired now then s.collect now k else s, snap.expired now) := by
  unfold checkIfExpired
  cases he : snap.expired now with
  | false =>
    rcases (Record.expired_eq_false_iff now snap).mp he with h0 | h1
    · rw [if_pos h0]; rfl
    · rw [if_pos h1, ite_self]; rfl
  | true =>
    obtain ⟨h0, h1⟩ := (Record.expired_iff now snap).mp he
    rw [if_neg h0, if_neg (Nat.not_lt.mpr h1), if_pos rfl, collect]
    cases s.mem.lookup k with
    | none => rfl
    | some cur => dsimp only; cases cur.expired now <;> rfl

theorem checkIfExpired_live {s : MemStore} {now : Nat} {k : Key} (h : ∀ r, s.mem.lookup k = some r → r.expired now = false)
    (snap : Record) : (s.checkIfExpired now k snap).1 = s := by
  rw [checkIfExpired_eq]
  rcases collect_cases s now k with ⟨hc, _⟩ | ⟨cur, hl, he, _⟩
  · rw [hc, ite_self]
  · rw [h cur hl] at he
    cases he

/-- `Cache::get` is its two calls -/
theorem get_calls (s : MemStore) (now : Nat) (k : Key) :
    s.get now k = match s.getByKey k with
      | .ok snap => ((s.checkIfExpired now k snap).1, if (s.checkIfExpired now k snap).2 then .error .notFound else .ok snap)
      | .error e => (s, .error e) := by
  unfold MemStore.get
  cases s.getByKey k with
  | error e => rfl
  | ok snap =>
    dsimp only
    rcases s.checkIfExpired now k snap with ⟨s', ex⟩
    cases ex <;> rfl

theorem get_eq (s : MemStore) (now : Nat) (k : Key) :
    s.get now k = (s.collect now k, match s.vis now k with | some r => .ok r | none => .error .notFound) := by
  unfold get getByKey
  rw [vis_def]
  cases hl : s.mem.lookup k with
  | none => simp [collect, hl]
  | some r =>
    simp only [checkIfExpired_eq]
    by_cases he : r.expired now = true
    · simp [he]
    · simp [he, collect, hl]

theorem collect_vis_some {s : MemStore} {now : Nat} {k : Key} {x : Record} (h : s.vis now k = some x) :
    s.collect now k = s := by
  rcases collect_cases s now k with ⟨hc, _⟩ | ⟨_, _, _, hv, _⟩
  · exact hc
  · rw [hv] at h; cases h

/-- nothing visible under `k`: whatever is stored there goes (erasing an absent key changes nothing) -/
theorem collect_vis_none {s : MemStore} {now : Nat} {k : Key} (h : s.vis now k = none) :
    s.collect now k = { s with mem := s.mem.erase k } := by
  rcases collect_cases s now k with ⟨hc, hv⟩ | ⟨_, _, _, _, hc⟩
  · rw [hc, Mem.erase_absent _ _ (hv ▸ h)]
  · exact hc

theorem get_vis_some {s : MemStore} {now : Nat} {k : Key} {x : Record} (h : s.vis now k = some x) :
    s.get now k = (s, .ok x) := by
  rw [get_eq, h, collect_vis_some h]

theorem get_vis_none {s : MemStore} {now : Nat} {k : Key} (h : s.vis now k = none) :
    s.get now k = ({ s with mem := s.mem.erase k }, .error .notFound) := by
  rw [get_eq, h, collect_vis_none h]

theorem get_live {s : MemStore} {now : Nat} {k : Key} {x : Record} (hl : s.mem.lookup k = some x)
    (he : x.expired now = false) : s.get now k = (s, .ok x) :=
  get_vis_some (vis_eq_some_iff.mpr ⟨hl, he⟩)

theorem get_absent {s : MemStore} {k : Key} (now : Nat) (h : s.mem.lookup k = none) :
    s.get now k = (s, .error .notFound) := by
  rw [get_vis_none (by rw [vis_def, h]), Mem.erase_absent _ _ h]

/-- collecting an invisible record changes nothing any retrieval can see -/
theorem vis_erase_of_vis_none {s : MemStore} {now : Nat} {k : Key} (h : s.vis now k = none) (k' : Key) :
    ({ s with mem := s.mem.erase k } : MemStore).vis now k' = s.vis now k' := by
  by_cases hk : k' = k
  · subst hk; rw [h, vis_def]; simp [Mem.lookup_erase_self]
  · simp only [vis_def, Mem.lookup_erase_ne _ hk]

theorem collect_lookup_self (s : MemStore) (now : Nat) (k : Key) : (s.collect now k).mem.lookup k = s.vis now k := by
  rcases collect_cases s now k with ⟨hc, hv⟩ | ⟨_, _, _, hv, hc⟩ <;> rw [hc, hv]
  exact Mem.lookup_erase_self ..

theorem collect_lookup_ne (s : MemStore) (now : Nat) {k k' : Key} (h : k' ≠ k) :
    (s.collect now k).mem.lookup k' = s.mem.lookup k' := by
  rcases collect_cases s now k with ⟨hc, _⟩ | ⟨_, _, _, _, hc⟩ <;> rw [hc]
  exact Mem.lookup_erase_ne _ h

theorem collect_casId (s : MemStore) (now : Nat) (k : Key) : (s.collect now k).casId = s.casId := by
  rcases collect_cases s now k with ⟨hc, _⟩ | ⟨_, _, _, _, hc⟩ <;> rw [hc]

theorem get_lookup_ne (s : MemStore) (now : Nat) {k k' : Key} (h : k' ≠ k) :
    (s.get now k).1.mem.lookup k' = s.mem.lookup k' := by
  rw [get_eq]; exact collect_lookup_ne s now h

theorem get_eq_lookup_ne {s s2 : MemStore} {now : Nat} {k k' : Key} {res : Except CacheError Record}
    (h : s.get now k = (s2, res)) (hne : k' ≠ k) : s2.mem.lookup k' = s.mem.lookup k' := by
  have := get_lookup_ne s now hne; rw [h] at this; exact this

theorem get_bytes_le (s : MemStore) (now : Nat) (k : Key) : (s.get now k).1.mem.bytes ≤ s.mem.bytes := by
  rw [get_eq]
  rcases collect_cases s now k with ⟨hc, _⟩ | ⟨_, _, _, _, hc⟩ <;> rw [hc]
  · exact Nat.le_refl _
  · exact Mem.bytes_erase_le _ _

theorem WF_get (s : MemStore) (now : Nat) (k : Key) (h : s.mem.WF) : (s.get now k).1.mem.WF := by
  rw [get_eq]
  rcases collect_cases s now k with ⟨hc, _⟩ | ⟨_, _, _, _, hc⟩ <;> rw [hc]
  · exact h
  · exact Mem.WF_erase _ _ h

/-! ### `set`: refused, or the record is in place under a counter-issued or a client-derived CAS -/

/-- the record as `set` stores it: under the CAS it was given, stamped with the time of the store -/
def stamp (r : Record) (c now : Nat) : Record := { r with header := { r.header with cas := c, timestamp := now } }

theorem stamp_live {r : Record} {t0 t : Nat} (c : Nat) (h : r.header.ttl = 0 ∨ t < t0 + r.header.ttl) :
    (stamp r c t0).expired t = false :=
  (Record.expired_eq_false_iff t _).mpr h

theorem stamp_fresh_not_expired (r : Record) (c now : Nat) : (stamp r c now).expired now = false :=
  stamp_live c ((Nat.eq_zero_or_pos _).imp_right Nat.lt_add_of_pos_right)

/-- `cas + 1` saturating at `u64::MAX`: what `set` gives a record stored with a CAS on an absent key -/
def satSucc (c : Nat) : Nat := if c + 1 < U64 then c + 1 else U64MAX

theorem set_cas0 (s : MemStore) (now : Nat) (k : Key) (r : Record) (h : r.header.cas = 0) :
    s.set now k r = ({ mem := s.mem.insert k (stamp r s.casId now), casId := s.casId + 1 }, .ok s.casId) := by
  simp [set, h, stamp]

theorem set_current (s : MemStore) (now : Nat) (k : Key) (r x : Record) (hl : s.mem.lookup k = some x)
    (hc : r.header.cas = 0 ∨ r.header.cas = x.header.cas) :
    s.set now k r = ({ mem := s.mem.insert k (stamp r s.casId now), casId := s.casId + 1 }, .ok s.casId) := by
  by_cases h0 : r.header.cas = 0
  · exact set_cas0 s now k r h0
  · simp [set, Nat.pos_of_ne_zero h0, hl, (hc.resolve_left h0).symm, stamp]

theorem set_mismatch (s : MemStore) (now : Nat) (k : Key) (r old : Record) (h : r.header.cas ≠ 0)
    (hl : s.mem.lookup k = some old) (hm : old.header.cas ≠ r.header.cas) :
    s.set now k r = (s, .error .keyExists) := by
  simp [set, Nat.pos_of_ne_zero h, hl, hm]

theorem set_absent (s : MemStore) (now : Nat) (k : Key) (r : Record) (h : r.header.cas ≠ 0)
    (hl : s.mem.lookup k = none) :
    s.set now k r = ({ s with mem := s.mem.insert k (stamp r (satSucc r.header.cas) now) }, .ok (satSucc r.header.cas)) := by
  simp [set, Nat.pos_of_ne_zero h, hl, stamp, satSucc]

/-- everything `set` can do: refuse a stale CAS; store under the next counter value (no CAS, or the current one);
    store under the successor of the client's CAS (a CAS on an absent key) -/
theorem set_cases (s : MemStore) (now : Nat) (k : Key) (r : Record) :
    (s.set now k r = (s, .error .keyExists)
        ∧ ∃ old, s.mem.lookup k = some old ∧ old.header.cas ≠ r.header.cas ∧ r.header.cas ≠ 0)
    ∨ (s.set now k r = ({ mem := s.mem.insert k (stamp r s.casId now), casId := s.casId + 1 }, .ok s.casId)
        ∧ (r.header.cas = 0 ∨ ∃ old, s.mem.lookup k = some old ∧ old.header.cas = r.header.cas))
    ∨ (s.set now k r = ({ s with mem := s.mem.insert k (stamp r (satSucc r.header.cas) now) }, .ok (satSucc r.header.cas))
        ∧ s.mem.lookup k = none ∧ r.header.cas ≠ 0) := by
  by_cases h0 : r.header.cas = 0
  · exact .inr (.inl ⟨set_cas0 s now k r h0, .inl h0⟩)
  · cases hl : s.mem.lookup k with
    | none => exact .inr (.inr ⟨set_absent s now k r h0 hl, rfl, h0⟩)
    | some old =>
      by_cases hm : old.header.cas = r.header.cas
      · exact .inr (.inl ⟨set_current s now k r old hl (.inr hm.symm), .inr ⟨old, rfl, hm⟩⟩)
      · exact .inl ⟨set_mismatch s now k r old h0 hl hm, old, rfl, hm, h0⟩

theorem set_of_error {s : MemStore} {now : Nat} {k : Key} {r : Record} {e : CacheError}
    (h : (s.set now k r).2 = .error e) : s.set now k r = (s, .error .keyExists) := by
  rcases set_cases s now k r with ⟨h1, _⟩ | ⟨h1, _⟩ | ⟨h1, _⟩
  · exact h1
  all_goals rw [h1] at h; cases h

theorem set_of_ok {s : MemStore} {now : Nat} {k : Key} {r : Record} {c : Nat} (h : (s.set now k r).2 = .ok c) :
    (s.set now k r).1.mem = s.mem.insert k (stamp r c now) := by
  rcases set_cases s now k r with ⟨h1, _⟩ | ⟨h1, _⟩ | ⟨h1, _⟩ <;> rw [h1] at h ⊢
  · cases h
  all_goals cases h; rfl

/-- an acknowledged store leaves its record under the key, stamped with the acknowledged CAS -/
theorem set_ok_lookup {s : MemStore} {now : Nat} {k : Key} {r : Record} {c : Nat} (h : (s.set now k r).2 = .ok c) :
    (s.set now k r).1.mem.lookup k = some (stamp r c now) := by
  rw [set_of_ok h]; exact Mem.lookup_insert_self ..

theorem _root_.Memc.Res.ofCas_eq_err {x : Except CacheError Nat} {e : CacheError} :
    Res.ofCas x = .err e ↔ x = .error e := by
  cases x <;> simp [Res.ofCas]

theorem set_ne_notFound (s : MemStore) (now : Nat) (k : Key) (r : Record) :
    Res.ofCas (s.set now k r).2 ≠ .err .notFound := by
  intro h
  rw [set_of_error (Res.ofCas_eq_err.mp h)] at h
  cases h

theorem set_mem (s : MemStore) (now : Nat) (k : Key) (r : Record) :
    (s.set now k r).1.mem = s.mem ∨ ∃ c, (s.set now k r).1.mem = s.mem.insert k (stamp r c now) := by
  cases h : (s.set now k r).2 with
  | error e => rw [set_of_error h]; exact .inl rfl
  | ok c => exact .inr ⟨c, set_of_ok h⟩

theorem set_lookup_ne (s : MemStore) (now : Nat) {k k' : Key} (r : Record) (h : k' ≠ k) :
    (s.set now k r).1.mem.lookup k' = s.mem.lookup k' := by
  rcases set_mem s now k r with h1 | ⟨c, h1⟩ <;> rw [h1]
  exact Mem.lookup_insert_ne _ _ h

theorem set_casId_le (s : MemStore) (now : Nat) (k : Key) (r : Record) : s.casId ≤ (s.set now k r).1.casId := by
  rcases set_cases s now k r with ⟨h1, _⟩ | ⟨h1, _⟩ | ⟨h1, _⟩ <;> rw [h1] <;> simp

theorem set_bytes_le (s : MemStore) (now : Nat) (k : Key) (r : Record) :
    (s.set now k r).1.mem.bytes ≤ r.len + s.mem.bytes := by
  rcases set_mem s now k r with h1 | ⟨c, h1⟩ <;> rw [h1]
  · exact Nat.le_add_left ..
  · exact Mem.bytes_insert_le s.mem k (stamp r c now)

theorem WF_set (s : MemStore) (now : Nat) (k : Key) (r : Record) (h : s.mem.WF) : (s.set now k r).1.mem.WF := by
  rcases set_mem s now k r with h1 | ⟨c, h1⟩ <;> rw [h1]
  · exact h
  · exact Mem.WF_insert _ _ _ h

theorem delete_ok (s : MemStore) (k : Key) (cas : Nat) (r : Record) (hl : s.mem.lookup k = some r)
    (h : cas = 0 ∨ r.header.cas = cas) : s.delete k cas = ({ s with mem := s.mem.erase k }, .ok r) := by
  simp [delete, hl, h]

theorem delete_mismatch (s : MemStore) (k : Key) (cas : Nat) (r : Record) (hl : s.mem.lookup k = some r)
    (h : ¬ (cas = 0 ∨ r.header.cas = cas)) : s.delete k cas = (s, .error .keyExists) := by
  simp [delete, hl, h]

theorem delete_absent (s : MemStore) (k : Key) (cas : Nat) (hl : s.mem.lookup k = none) :
    s.delete k cas = (s, .error .notFound) := by
  simp [delete, hl]

theorem delete_cases (s : MemStore) (k : Key) (cas : Nat) :
    (∃ e, s.delete k cas = (s, .error e)) ∨
    (∃ r, s.mem.lookup k = some r ∧ s.delete k cas = ({ s with mem := s.mem.erase k }, .ok r)) := by
  cases hl : s.mem.lookup k with
  | none => exact .inl ⟨_, delete_absent s k cas hl⟩
  | some r =>
    by_cases h : cas = 0 ∨ r.header.cas = cas
    · exact .inr ⟨r, rfl, delete_ok s k cas r hl h⟩
    · exact .inl ⟨_, delete_mismatch s k cas r hl h⟩

theorem delete_lookup_ne (s : MemStore) {k k' : Key} (cas : Nat) (h : k' ≠ k) :
    (s.delete k cas).1.mem.lookup k' = s.mem.lookup k' := by
  rcases delete_cases s k cas with ⟨e, h1⟩ | ⟨r, _, h1⟩ <;> rw [h1]
  exact Mem.lookup_erase_ne _ h

theorem delete_casId (s : MemStore) (k : Key) (cas : Nat) : (s.delete k cas).1.casId = s.casId := by
  rcases delete_cases s k cas with ⟨e, h1⟩ | ⟨r, _, h1⟩ <;> rw [h1]

theorem delete_bytes (s : MemStore) (k : Key) (cas : Nat) :
    (∀ r, (s.delete k cas).2 = .ok r → (s.delete k cas).1.mem.bytes + r.len ≤ s.mem.bytes) ∧
    (s.delete k cas).1.mem.bytes ≤ s.mem.bytes := by
  rcases delete_cases s k cas with ⟨e, h1⟩ | ⟨r, hl, h1⟩ <;> rw [h1]
  · exact ⟨fun r h => (nomatch h), Nat.le_refl _⟩
  · refine ⟨fun r' h => ?_, Mem.bytes_erase_le _ _⟩
    cases h
    exact Mem.bytes_erase_lookup s.mem k r hl

theorem WF_delete (s : MemStore) (k : Key) (cas : Nat) (h : s.mem.WF) : (s.delete k cas).1.mem.WF := by
  rcases delete_cases s k cas with ⟨e, h1⟩ | ⟨r, _, h1⟩ <;> rw [h1]
  · exact h
  · exact Mem.WF_erase _ _ h

theorem flush_lookup (s : MemStore) (now ttl : Nat) (k : Key) :
    (s.flush now ttl).mem.lookup k = if ttl > 0 then (s.mem.lookup k).map (flushRecord now ttl) else none := by
  unfold flush
  split
  · simp [Mem.lookup_map]
  · simp

theorem flush_casId (s : MemStore) (now ttl : Nat) : (s.flush now ttl).casId = s.casId := by
  unfold flush; split <;> rfl

/-- a delayed flush moves a record's deadline to `now + ttl`, unless it was earlier -/
theorem flushRecord_expired (now ttl t : Nat) (r : Record) (h : ttl > 0) :
    (flushRecord now ttl r).expired t = true ↔ r.expired t = true ∨ now + ttl ≤ t := by
  rw [Record.expired_iff, Record.expired_iff]
  unfold flushRecord
  split
  next hc =>
    -- restamped to the deadline `now + ttl`: the old deadline, if there was one, is later
    dsimp only
    rw [and_iff_right (Nat.ne_of_gt h)]
    exact (or_iff_right_of_imp fun ⟨h0, h1⟩ => Nat.le_trans (Nat.le_of_lt (hc.resolve_left h0)) h1).symm
  next hc =>
    -- left as it is: its deadline is `now + ttl` at the latest
    rw [not_or, Nat.not_lt] at hc
    exact (or_iff_left_of_imp fun h1 => ⟨hc.1, Nat.le_trans hc.2 h1⟩).symm

theorem flush_vis_none {s : MemStore} {now ttl t : Nat} {k : Key} (h : ttl > 0)
    (hx : ∀ x, s.mem.lookup k = some x → x.expired t = true ∨ now + ttl ≤ t) : (s.flush now ttl).vis t k = none := by
  rw [vis_eq_none_iff, flush_lookup, if_pos h]
  intro y hy
  obtain ⟨x, hl, rfl⟩ := Option.map_eq_some_iff.mp hy
  exact (flushRecord_expired now ttl t x h).mpr (hx x hl)

theorem flushRecord_len (now ttl : Nat) (r : Record) : (flushRecord now ttl r).len = r.len := by
  unfold flushRecord; split <;> rfl

theorem flush_bytes_le (s : MemStore) (now ttl : Nat) : (s.flush now ttl).mem.bytes ≤ s.mem.bytes := by
  unfold flush
  split
  · exact Nat.le_of_eq (Mem.bytes_map _ _ (flushRecord_len now ttl))
  · simp

theorem WF_flush (s : MemStore) (now ttl : Nat) (h : s.mem.WF) : (s.flush now ttl).mem.WF := by
  unfold flush
  split
  · exact Mem.WF_map _ _ h
  · trivial

end MemStore
end Memc

import MemcVerif.Model.Policy
import MemcVerif.Proofs.Store
/-! The wrapping counter where it does not wrap, the eviction loop when there is nothing to evict, and what
    `RandomPolicy::set` does then; the loop never touches the CAS counter, never clears `bad`, and without a victim
    on the tape leaves the store alone. Inductions over the loop are `fun_induction Policy.evictLoop`: reset, stuck on
    an empty tape, victim not stored, victim evicted, guard false. -/
namespace Memc

theorem wadd_lt (a b : Nat) : wadd a b < U64 := Nat.mod_lt _ (by decide)
theorem wsub_lt (a b : Nat) : wsub a b < U64 := Nat.mod_lt _ (by decide)

theorem wadd_exact {a b : Nat} (h : a + b < U64) : wadd a b = a + b := by
  unfold wadd; exact Nat.mod_eq_of_lt h

theorem wsub_exact {a b : Nat} (hb : b ≤ a) (ha : a < U64) : wsub a b = a - b := by
  unfold wsub
  rw [Nat.mod_eq_of_lt (Nat.lt_of_le_of_lt hb ha), Nat.sub_add_comm hb, Nat.add_mod_right,
    Nat.mod_eq_of_lt (Nat.lt_of_le_of_lt (Nat.sub_le a b) ha)]

/-- what the empty-store reset leaves on a counter `a` that covers the pending `b` bytes -/
theorem wsub_wsub_cancel {a b : Nat} (hb : b ≤ a) (ha : a < U64) : wsub a (wsub a b) = b := by
  rw [wsub_exact hb ha, wsub_exact (Nat.sub_le a b) ha, Nat.sub_sub_self hb]

namespace Policy

theorem evictLoop_of_le (value : Nat) (tape : List Key) (p : Policy) {u : Nat} (h : u ≤ p.limit) :
    evictLoop value tape p u = { p with tape := tape, bad := p.bad || !tape.isEmpty } := by
  unfold evictLoop
  exact if_neg (Nat.not_lt.mpr h)

theorem incrMemUsage_of_le (p : Policy) (value : Nat) (h : wadd p.usage value ≤ p.limit) :
    p.incrMemUsage value = { p with usage := wadd p.usage value, bad := p.bad || !p.tape.isEmpty } :=
  evictLoop_of_le value p.tape { p with usage := wadd p.usage value } h

theorem set_of_le (p : Policy) (now : Nat) (k : Key) (r : Record) (htape : p.tape = [])
    (hroom : wadd p.usage r.len ≤ p.limit) :
    p.set now k r =
      ({ p with inner := (p.inner.set now k r).1, usage := wadd p.usage r.len }, (p.inner.set now k r).2) := by
  unfold set
  rw [incrMemUsage_of_le p r.len hroom]
  simp only [htape, List.isEmpty_nil, Bool.not_true, Bool.or_false]

theorem set_roomy (p : Policy) (now : Nat) (k : Key) (r : Record) (htape : p.tape = [])
    (hroom : p.usage + r.len ≤ p.limit) (hnw : p.usage + r.len < U64) :
    p.set now k r =
      ({ p with inner := (p.inner.set now k r).1, usage := p.usage + r.len }, (p.inner.set now k r).2) := by
  rw [set_of_le p now k r htape (wadd_exact hnw ▸ hroom), wadd_exact hnw]

theorem delete_eq (p : Policy) (k : Key) (cas : Nat) :
    p.delete k cas =
      ({ p with inner := (p.inner.delete k cas).1,
                usage := match (p.inner.delete k cas).2 with | .ok r => wsub p.usage r.len | .error _ => p.usage },
        (p.inner.delete k cas).2) := by
  dsimp only [delete]
  cases (p.inner.delete k cas).2 <;> rfl

end Policy

theorem evictLoop_casId (value : Nat) (tape : List Key) (p : Policy) (u : Nat) :
    (Policy.evictLoop value tape p u).inner.casId = p.inner.casId := by
  fun_induction Policy.evictLoop value tape p u with
  | case4 _ _ _ _ _ _ _ _ _ ih => exact ih
  | _ => rfl

theorem evictLoop_bad_sticky (value : Nat) (tape : List Key) (p : Policy) (u : Nat) (h : p.bad = true) :
    (Policy.evictLoop value tape p u).bad = true := by
  fun_induction Policy.evictLoop value tape p u with
  | case4 _ _ _ _ _ _ _ _ _ ih => exact ih h
  | case1 | case5 => simp only [h, Bool.true_or]
  | _ => rfl

theorem evictLoop_nil (value : Nat) (p : Policy) (u : Nat) :
    (Policy.evictLoop value [] p u).inner = p.inner ∧ (Policy.evictLoop value [] p u).tape = [] := by
  by_cases hg : u ≤ p.limit
  · rw [Policy.evictLoop_of_le value [] p hg]
    exact ⟨rfl, rfl⟩
  · -- the loop has to evict: an empty store is reset, otherwise it is stuck without a victim
    unfold Policy.evictLoop
    rw [if_pos (Nat.not_le.mp hg)]
    split <;> exact ⟨rfl, rfl⟩

section
open MemStore
/-- a store without CAS behind the policy is always acknowledged, with the next CAS, and its record is in the store
    afterwards — for every limit, usage and tape of victims -/
theorem policy_set_cas0 (p : Policy) (now : Nat) (k : Key) (r : Record) (h : r.header.cas = 0) :
    (p.set now k r).2 = .ok p.inner.casId ∧
    (p.set now k r).1.inner.mem.lookup k = some (stamp r p.inner.casId now) := by
  have hc : (p.incrMemUsage r.len).inner.casId = p.inner.casId := evictLoop_casId _ _ _ _
  simp only [Policy.set, set_cas0 _ _ _ _ h, hc, Mem.lookup_insert_self, and_self]

/-- the acknowledgement as an equation on the pair, to rewrite with under a `match` on the result -/
theorem policy_set_cas0_eq (p : Policy) (now : Nat) (k : Key) (r : Record) (h : r.header.cas = 0) :
    p.set now k r = ((p.set now k r).1, .ok p.inner.casId) :=
  Prod.ext rfl (policy_set_cas0 p now k r h).1

end

end Memc

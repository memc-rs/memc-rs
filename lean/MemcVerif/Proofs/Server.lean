import MemcVerif.Model.Server
/-! The accept loop (`Srv.settle`) and the server's events: what they keep invariant, and that the loop's fuel suffices.

    The cases of `fun_induction settle`: 1 out of fuel; a connection is held and a permit is free — 2 its peer is gone, it is
    over at once, 3 it is served; 4 a connection is held and no permit is free; nobody is held — 5 and nobody waits,
    6 the next of the backlog is accepted. The loop goes on in 2, 3 and 6. -/
namespace Memc
open Srv

/-- permits and served connections always add up to the limit -/
def Srv.Inv (s : Srv) : Prop := s.permits + s.active.length = s.limit

/-- the accept loop has nothing left to do: either a connection is held and no permit is free, or nobody waits -/
def Srv.Stuck (s : Srv) : Prop :=
  (s.holding.isSome = true ∧ s.permits = 0) ∨ (s.holding = none ∧ s.backlog = [])

theorem Srv.run_induction {P : Srv → Prop} {s : Srv} (h0 : P s) (hstep : ∀ s e, P s → P (step s e)) (es : List SEv) :
    P (run s es) :=
  List.foldlRecOn es step h0 fun s h e _ => hstep s e h

theorem settle_inv {fuel : Nat} {s : Srv} (h : s.Inv) : (settle fuel s).Inv ∧ (settle fuel s).limit = s.limit := by
  fun_induction settle fuel s with
  | case2 _ _ _ _ _ _ ih | case6 _ _ _ _ _ _ ih => exact ih h
  | case3 _ s j _ hp _ ih =>
    -- serving `j` takes a permit
    refine ih ?_
    unfold Srv.Inv at *
    simp only [List.length_append, List.length_singleton]
    omega
  | _ => exact ⟨h, rfl⟩

theorem settle_active {fuel : Nat} {s : Srv} {j : Nat} (h : j ∈ s.active) : j ∈ (settle fuel s).active := by
  fun_induction settle fuel s with
  | case2 _ _ _ _ _ _ ih | case6 _ _ _ _ _ _ ih => exact ih h
  | case3 _ _ _ _ _ _ ih => exact ih (List.mem_append_left _ h)
  | _ => exact h

/-- the fuel given to `settle` is enough: the loop always runs to the point where it has to wait. Every waiting
    connection costs two turns (accepted, then served), a held one one more; `step` hands out `2 * backlog + 4`. -/
theorem settle_stuck {fuel : Nat} {s : Srv}
    (h : 2 * s.backlog.length + (if s.holding.isSome then 1 else 0) < fuel) : (settle fuel s).Stuck := by
  fun_induction settle fuel s with
  | case1 => exact absurd h (Nat.not_lt_zero _)
  | case2 _ _ _ hj _ _ ih | case3 _ _ _ hj _ _ ih =>
    -- the held connection is served (or gone): the accept loop is free again
    simp only [hj, Option.isSome_some, if_true] at h
    exact ih (Nat.lt_of_succ_lt_succ h)
  | case4 _ _ _ hj hp => exact .inl ⟨by simp [hj], Nat.eq_zero_of_not_pos hp⟩
  | case5 _ _ hj hb => exact .inr ⟨hj, hb⟩
  | case6 _ _ hj _ _ hb ih =>
    simp only [hj, hb, List.length_cons] at h
    exact ih (by simp; omega)

/-- the end of a served connection: `Drop for Client` gives the permit back and the accept loop runs -/
theorem step_finish_served {s : Srv} {i : Nat} (h : s.active.contains i = true) :
    step s (.finish i) = settle (2 * s.backlog.length + 4) { s with active := s.active.erase i, permits := s.permits + 1 } := by
  simp only [step, h, if_true]

/-- what an event does: a new connection joins the backlog, or a served one gives its permit back, and the accept loop
    runs; the end of a connection that is not served is only noted -/
theorem step_cases {P : Srv → Prop} (s : Srv) (e : SEv)
    (connect : ∀ i, P (settle (2 * s.backlog.length + 4) { s with backlog := s.backlog ++ [i] }))
    (served : ∀ i, i ∈ s.active →
      P (settle (2 * s.backlog.length + 4) { s with active := s.active.erase i, permits := s.permits + 1 }))
    (unserved : ∀ gone, P { s with gone := gone }) : P (step s e) := by
  fun_cases step s e with
  | case1 i => exact connect i
  | case2 i ha => exact served i (List.contains_iff_mem.mp ha)
  | case3 => exact unserved _
  | case4 => exact unserved s.gone

theorem step_inv (s : Srv) (e : SEv) (h : s.Inv) : (step s e).Inv ∧ (step s e).limit = s.limit := by
  refine step_cases (P := fun s' => s'.Inv ∧ s'.limit = s.limit) s e
    (fun _ => settle_inv h) (fun i hm => settle_inv ?_) (fun _ => ⟨h, rfl⟩)
  have := List.length_pos_of_mem hm
  unfold Srv.Inv at *
  simp only [List.length_erase_of_mem hm]
  omega

theorem step_stuck (s : Srv) (e : SEv) (h : s.Stuck) : (step s e).Stuck := by
  refine step_cases s e (fun i => settle_stuck ?_) (fun i _ => settle_stuck ?_) (fun _ => h)
  · simp only [List.length_append, List.length_singleton]
    split <;> omega
  · dsimp only
    split <;> omega

end Memc

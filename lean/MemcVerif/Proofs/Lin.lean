import MemcVerif.Proofs.ToSeq
/-!
# Linearization of concurrent get / set / CAS-set / delete (C03)

The run of `Sys` under a schedule is re-read as a **log of atomic events** in the order in which they hit the
store: one event per command at its linearization point (set: the store call; delete: the `remove_if`; get: its
snapshot `get_by_key`, where the answer is decided) plus one internal `collect` event for the second half of a
get that found a record. A collect only removes a record that is expired, i.e. invisible.
-/
namespace Memc
open MemStore

/-- the commands C03 speaks about -/
def CCmd.plain : CCmd → Bool
  | .get _ | .set _ _ | .delete _ _ => true
  | _ => false

inductive Ev
  | cmd (i : Nat) (c : CCmd)
  | collect (k : Key) (snap : Record)
deriving Repr

/-- the answer of a get, decided on the record stored at this moment -/
def answerOf (now : Nat) : Option Record → CRes
  | some r => if r.expired now then .err .notFound else .hit r
  | none => .err .notFound

/-- one atomic event on the store; a command event yields the command's result -/
def Ev.apply (s : MemStore) (now : Nat) : Ev → MemStore × List (Nat × CRes)
  | .cmd i (.get k) => (s, [(i, answerOf now (s.mem.lookup k))])
  | .cmd i (.set k r) => let x := s.set now k r; (x.1, [(i, resOfCas x.2)])
  | .cmd i (.delete k cas) =>
    let x := s.delete k cas
    (x.1, [(i, match x.2 with | .ok _ => .deleted | .error e => .err e)])
  | .cmd i _ => (s, [(i, .done)])     -- not C03's commands (`CCmd.plain`); the logs built below hold none (`Rel.plainLog`)
  | .collect k snap => ((s.checkIfExpired now k snap).1, [])

def evStep (now : Nat) (acc : MemStore × List (Nat × CRes)) (e : Ev) : MemStore × List (Nat × CRes) :=
  let x := e.apply acc.1 now
  (x.1, acc.2 ++ x.2)

def runEvs (s : MemStore) (now : Nat) (evs : List Ev) : MemStore × List (Nat × CRes) :=
  evs.foldl (evStep now) (s, [])

theorem runEvs_snoc (s : MemStore) (now : Nat) (evs : List Ev) (e : Ev) :
    runEvs s now (evs ++ [e]) = evStep now (runEvs s now evs) e := by
  simp [runEvs]

/-- the commands of thread `i` in the log, in log order -/
def cmdsOf (i : Nat) (log : List Ev) : List CCmd :=
  log.filterMap (fun e => match e with | .cmd j c => if j = i then some c else none | .collect _ _ => none)

/-- the results handed to thread `i`, in log order -/
def outsOf (i : Nat) (outs : List (Nat × CRes)) : List CRes :=
  outs.filterMap (fun p => if p.1 = i then some p.2 else none)

@[simp] theorem cmdsOf_snoc_cmd (i j : Nat) (log : List Ev) (c : CCmd) :
    cmdsOf i (log ++ [.cmd j c]) = cmdsOf i log ++ (if j = i then [c] else []) := by
  by_cases h : j = i <;> simp [cmdsOf, h]

@[simp] theorem cmdsOf_snoc_collect (i : Nat) (log : List Ev) (k : Key) (r : Record) :
    cmdsOf i (log ++ [.collect k r]) = cmdsOf i log := by
  simp [cmdsOf]

@[simp] theorem outsOf_append (i : Nat) (a b : List (Nat × CRes)) : outsOf i (a ++ b) = outsOf i a ++ outsOf i b := by
  simp [outsOf]

@[simp] theorem outsOf_nil (i : Nat) : outsOf i [] = [] := rfl

@[simp] theorem outsOf_single (i j : Nat) (r : CRes) : outsOf i [(j, r)] = if j = i then [r] else [] := by
  by_cases h : j = i <;> simp [outsOf, h]

/-- the result a thread is already owed: a get between its snapshot and its collection -/
def Thread.pending (t : Thread) (now : Nat) : List CRes :=
  match t.phase with
  | .snapped _ snap => [answerOf now (some snap)]
  | _ => []

/-- how one thread of the running system relates to its initial program and to the log -/
structure TRel (now : Nat) (i : Nat) (t0 t : Thread) (log : List Ev) (outs : List (Nat × CRes)) : Prop where
  todo : t0.todo = cmdsOf i log ++ t.todo
  outs : outsOf i outs = t.results ++ t.pending now
  plain : ∀ c ∈ t.todo, c.plain = true
  phase : t.phase = .idle ∨ ∃ k snap, t.phase = .snapped (.get k) snap

/-- the running system is explained by the log: its store is the log's result, its threads are where the log says -/
structure Rel (now : Nat) (sys0 sys : Sys) (log : List Ev) : Prop where
  store : sys.store = (runEvs sys0.store now log).1
  len : sys.threads.length = sys0.threads.length
  thr : ∀ i t0 t, sys0.threads[i]? = some t0 → sys.threads[i]? = some t →
          TRel now i t0 t log (runEvs sys0.store now log).2
  plainLog : ∀ i c, Ev.cmd i c ∈ log → c.plain = true

/-- a system about to start: every thread idle, nothing answered yet, programs of plain commands -/
def Sys.fresh (sys : Sys) : Prop :=
  ∀ t ∈ sys.threads, t.phase = .idle ∧ t.results = [] ∧ ∀ c ∈ t.todo, c.plain = true

theorem rel_init {now : Nat} {sys0 : Sys} (h : sys0.fresh) : Rel now sys0 sys0 [] := by
  refine ⟨rfl, rfl, ?_, fun _ _ hm => absurd hm List.not_mem_nil⟩
  intro i t0 t h0 h1
  cases h0.symm.trans h1
  obtain ⟨hp, hr, hpl⟩ := h t0 (List.mem_of_getElem? h0)
  exact ⟨rfl, by rw [hr, Thread.pending, hp]; rfl, hpl, .inl hp⟩

theorem Ev.apply_cmd_snd (s : MemStore) (now i : Nat) (c : CCmd) : ∃ res, (Ev.apply s now (.cmd i c)).2 = [(i, res)] := by
  cases c <;> exact ⟨_, rfl⟩

section
variable {s : MemStore} {now i : Nat} {k : Key} {snap : Record} {c : CCmd} {todo rest : List CCmd} {rs : List CRes}
  {t0 t : Thread} {log : List Ev} {outs : List (Nat × CRes)}

/-- the first call of a get: the snapshot, or the answer 'not found' -/
theorem step_get :
    Thread.step ⟨.get k :: rest, .idle, rs⟩ s now =
      (s, match s.mem.lookup k with
          | some snap => ⟨rest, .snapped (.get k) snap, rs⟩
          | none => ⟨rest, .idle, rs ++ [.err .notFound]⟩) := by
  rw [Thread.step_getFirst (c := .get k) ⟨nofun, nofun, nofun⟩]
  unfold getByKey CCmd.key
  cases s.mem.lookup k <;> rfl

/-- the second call of a get: collect, and hand out the answer that was decided on the snapshot -/
theorem step_collect :
    Thread.step ⟨todo, .snapped (.get k) snap, rs⟩ s now =
      ((s.checkIfExpired now k snap).1, ⟨todo, .idle, rs ++ [answerOf now (some snap)]⟩) := by
  rw [Thread.step_snapped, CCmd.key, checkIfExpired_eq, answerOf]
  cases snap.expired now <;> rfl

/-- thread `i` starts its next command `c` and is answered `res` at once, or (a get that found a record) is owed it -/
theorem TRel.cmd (h : TRel now i t0 ⟨c :: rest, .idle, rs⟩ log outs) {res : CRes} {t' : Thread} (htodo : t'.todo = rest)
    (hres : t'.results ++ t'.pending now = rs ++ [res])
    (hph : t'.phase = .idle ∨ ∃ k snap, t'.phase = .snapped (.get k) snap) :
    TRel now i t0 t' (log ++ [.cmd i c]) (outs ++ [(i, res)]) where
  todo := by rw [cmdsOf_snoc_cmd, if_pos rfl, List.append_assoc, htodo]; exact h.todo
  outs := by rw [outsOf_append, outsOf_single, if_pos rfl, h.outs, hres]; exact congrArg (· ++ [res]) (List.append_nil rs)
  plain := fun x hx => h.plain x (List.mem_cons_of_mem _ (htodo ▸ hx))
  phase := hph

/-- what the stepping thread does, as an event appended to the log: the event is no other thread's business, acts on
    the store as the step does, and keeps the thread related -/
theorem thread_step_event (s : MemStore) (h : TRel now i t0 t log outs) :
    t.step s now = (s, t) ∨
    ∃ e : Ev, (∀ j, j ≠ i → cmdsOf j (log ++ [e]) = cmdsOf j log ∧ outsOf j (e.apply s now).2 = []) ∧
      (∀ j c, e = .cmd j c → c.plain = true) ∧
      (t.step s now).1 = (e.apply s now).1 ∧
      TRel now i t0 (t.step s now).2 (log ++ [e]) (outs ++ (e.apply s now).2) := by
  obtain ⟨todo, phase, rs⟩ := t
  rcases h.phase with rfl | ⟨k, snap, rfl⟩
  · cases todo with
    | nil => exact .inl rfl
    | cons c rest =>
      have hc : c.plain = true := h.plain c List.mem_cons_self
      obtain ⟨res, hres⟩ := Ev.apply_cmd_snd s now i c
      refine .inr ⟨.cmd i c, fun j hj => ⟨?_, ?_⟩, fun j c' he => by cases he; exact hc, ?_⟩
      · rw [cmdsOf_snoc_cmd, if_neg (Ne.symm hj), List.append_nil]
      · rw [hres, outsOf_single, if_neg (Ne.symm hj)]
      cases c with
      | set _ _ | delete _ _ => exact ⟨rfl, h.cmd rfl (List.append_nil _) (.inl rfl)⟩
      | get k =>
        rw [step_get, Ev.apply]
        cases s.mem.lookup k with
        | none => exact ⟨rfl, h.cmd rfl (List.append_nil _) (.inl rfl)⟩
        | some snap => exact ⟨rfl, h.cmd rfl rfl (.inr ⟨k, snap, rfl⟩)⟩
      | _ => cases hc
  · -- between snapshot and collection
    refine .inr ⟨.collect k snap, fun j _ => ⟨cmdsOf_snoc_collect .., rfl⟩, fun _ _ he => Ev.noConfusion he, ?_⟩
    rw [step_collect]
    refine ⟨rfl, ?_, ?_, h.plain, .inl rfl⟩
    · rw [cmdsOf_snoc_collect]; exact h.todo
    · simpa [Thread.pending, Ev.apply] using h.outs

end

/-- one scheduler step keeps the system explained by a log (extended by at most one event) -/
theorem rel_step {now : Nat} {sys0 sys : Sys} {log : List Ev} (i : Nat) (h : Rel now sys0 sys log) :
    ∃ log', Rel now sys0 (sys.step now i) log' := by
  unfold Sys.step
  cases hti : sys.threads[i]? with
  | none => exact ⟨log, h⟩
  | some t =>
    obtain ⟨hi, rfl⟩ := List.getElem?_eq_some_iff.mp hti
    have hi0 : i < sys0.threads.length := h.len ▸ hi
    have ht0 : sys0.threads[i]? = some sys0.threads[i] := List.getElem?_eq_getElem hi0
    dsimp only
    rcases thread_step_event sys.store (h.thr i _ _ ht0 hti) with hs | ⟨e, hoth, hpe, hst, hrel⟩
    · refine ⟨log, ?_⟩
      simp only [hs, List.set_getElem_self]
      exact h
    · have hrun : runEvs sys0.store now (log ++ [e]) =
          ((e.apply sys.store now).1, (runEvs sys0.store now log).2 ++ (e.apply sys.store now).2) := by
        rw [runEvs_snoc, evStep, ← h.store]
      refine ⟨log ++ [e], by rw [hrun, hst], List.length_set.trans h.len, ?_, ?_⟩
      · intro j t0 tj h0 hj
        rw [hrun]
        by_cases hji : j = i
        · subst hji
          rw [List.getElem?_set_self hi] at hj
          cases hj; rw [ht0] at h0; cases h0
          exact hrel
        · rw [List.getElem?_set_ne (Ne.symm hji)] at hj
          obtain ⟨a, b, c, d⟩ := h.thr j t0 tj h0 hj
          obtain ⟨h1, h2⟩ := hoth j hji
          exact ⟨h1 ▸ a, by rw [outsOf_append, h2, List.append_nil]; exact b, c, d⟩
      · intro j c hm
        rcases List.mem_append.mp hm with hm | hm
        · exact h.plainLog j c hm
        · exact hpe j c (List.mem_singleton.mp hm).symm

theorem rel_run (now : Nat) (sys0 : Sys) (hfresh : sys0.fresh) (sched : List Nat) :
    ∃ log, Rel now sys0 (sys0.run now sched) log :=
  List.foldlRecOn (motive := fun sys => ∃ log, Rel now sys0 sys log) sched _ ⟨[], rel_init hfresh⟩
    fun _ ⟨_, h⟩ i _ => rel_step i h

/-! ## from the event log to the one-at-a-time model (`applyOp`) -/

/-- one-at-a-time execution of tagged commands by the sequential model -/
def runSeq (s : MemStore) (now : Nat) (cs : List (Nat × CCmd)) : MemStore × List (Nat × Res) :=
  cs.foldl (fun acc p => let x := applyOp acc.1 now p.2.toOp; (x.1, acc.2 ++ [(p.1, x.2)])) (s, [])

theorem runSeq_snoc (s : MemStore) (now : Nat) (cs : List (Nat × CCmd)) (p : Nat × CCmd) :
    runSeq s now (cs ++ [p]) =
      ((applyOp (runSeq s now cs).1 now p.2.toOp).1, (runSeq s now cs).2 ++ [(p.1, (applyOp (runSeq s now cs).1 now p.2.toOp).2)]) := by
  simp [runSeq]

def linOf (log : List Ev) : List (Nat × CCmd) :=
  log.filterMap (fun e => match e with | .cmd i c => some (i, c) | .collect _ _ => none)

theorem linOf_snoc_cmd (log : List Ev) (i : Nat) (c : CCmd) : linOf (log ++ [.cmd i c]) = linOf log ++ [(i, c)] :=
  List.filterMap_append

theorem linOf_snoc_collect (log : List Ev) (k : Key) (r : Record) : linOf (log ++ [.collect k r]) = linOf log :=
  List.filterMap_append.trans (List.append_nil _)

theorem cmdsOf_linOf (i : Nat) (log : List Ev) :
    (linOf log).filterMap (fun p => if p.1 = i then some p.2 else none) = cmdsOf i log := by
  rw [linOf, cmdsOf, List.filterMap_filterMap]
  congr 1
  funext e
  cases e <;> rfl

theorem outsOf_toRes (i : Nat) (outs : List (Nat × CRes)) :
    (outs.map fun p => (p.1, p.2.toRes)).filterMap (fun p => if p.1 = i then some p.2 else none) =
      (outsOf i outs).map CRes.toRes := by
  rw [outsOf, List.filterMap_map, List.map_filterMap]
  congr 1
  funext p
  dsimp only [Function.comp]
  split <;> rfl

def AllLive (s : MemStore) (now : Nat) : Prop := ∀ k r, s.mem.lookup k = some r → r.expired now = false

theorem allLive_set {s : MemStore} {now : Nat} (h : AllLive s now) (k : Key) (r : Record) :
    AllLive (s.set now k r).1 now := by
  intro k' r' hl
  by_cases hk : k' = k
  · subst hk
    rcases set_mem s now k' r with h1 | ⟨c, h1⟩ <;> rw [h1] at hl
    · exact h _ _ hl
    · rw [Mem.lookup_insert_self] at hl; cases hl; exact stamp_fresh_not_expired _ _ _
  · rw [set_lookup_ne s now r hk] at hl; exact h _ _ hl

theorem allLive_delete {s : MemStore} {now : Nat} (h : AllLive s now) (k : Key) (cas : Nat) :
    AllLive (s.delete k cas).1 now := by
  intro k' r' hl
  by_cases hk : k' = k
  · subst hk
    rcases delete_cases s k' cas with ⟨e, h1⟩ | ⟨r, _, h1⟩ <;> rw [h1] at hl
    · exact h _ _ hl
    · rw [Mem.lookup_erase_self] at hl; cases hl
  · rw [delete_lookup_ne s cas hk] at hl; exact h _ _ hl

theorem get_allLive {s : MemStore} {now : Nat} (h : AllLive s now) (k : Key) :
    applyOp s now (.get k) = (s, (answerOf now (s.mem.lookup k)).toRes) := by
  dsimp only [applyOp]
  cases hl : s.mem.lookup k with
  | none => rw [get_absent now hl]; rfl
  | some r =>
    rw [get_live hl (h k r hl)]
    simp [answerOf, h k r hl, CRes.toRes]

/-- with nothing expired in sight a command event is the command run by the sequential model -/
theorem Ev.apply_cmd_live {s : MemStore} {now : Nat} (h : AllLive s now) (i : Nat) {c : CCmd} (hc : c.plain = true) :
    (Ev.apply s now (.cmd i c)).1 = (applyOp s now c.toOp).1 ∧
    (Ev.apply s now (.cmd i c)).2.map (fun p => (p.1, p.2.toRes)) = [(i, (applyOp s now c.toOp).2)] ∧
    AllLive (Ev.apply s now (.cmd i c)).1 now := by
  cases c with
  | get k => rw [CCmd.toOp, get_allLive h]; exact ⟨rfl, rfl, h⟩
  | set k r => exact ⟨rfl, congrArg (fun x => [(i, x)]) (resOfCas_toRes _), allLive_set h k r⟩
  | delete k cas =>
    rw [CCmd.toOp, applyOp_delete]
    exact ⟨rfl, congrArg (fun x => [(i, x)]) (delRes_toRes _), allLive_delete h k cas⟩
  | _ => cases hc

/-- with nothing expired in sight, the event log is the sequential model run on its command events -/
theorem runEvs_eq_runSeq (now : Nat) (log : List Ev) (hpl : ∀ i c, Ev.cmd i c ∈ log → c.plain = true) :
    ∀ s, AllLive s now →
      (runEvs s now log).1 = (runSeq s now (linOf log)).1 ∧
      (runEvs s now log).2.map (fun p => (p.1, p.2.toRes)) = (runSeq s now (linOf log)).2 ∧
      AllLive (runEvs s now log).1 now := by
  intro s hs
  induction log using snoc_induction with
  | h0 => exact ⟨rfl, rfl, hs⟩
  | h1 log e ih =>
    obtain ⟨h1, h2, h3⟩ := ih fun i c hm => hpl i c (List.mem_append_left _ hm)
    rw [runEvs_snoc, evStep]
    cases e with
    | collect k snap =>
      rw [linOf_snoc_collect]
      simp only [Ev.apply, List.append_nil, checkIfExpired_live (h3 k)]
      exact ⟨h1, h2, h3⟩
    | cmd i c =>
      obtain ⟨e1, e2, e3⟩ := Ev.apply_cmd_live h3 i (hpl i c (by simp))
      rw [linOf_snoc_cmd, runSeq_snoc, ← h1, List.map_append, h2, e2]
      exact ⟨e1, rfl, e3⟩

end Memc

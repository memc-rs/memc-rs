import MemcVerif.Model.Conn
/-! Stream lemmas for the connection-level decoder: appending bytes to the buffer commutes with decoding
    (`drain_append`), the core of segmentation independence; `drain` stops at a turn that waits (`decode1_drain`). -/
namespace Memc

theorem parseHeader_take (b : Bytes) : parseHeader (b.take HEADER_LEN) = parseHeader b := by
  simp only [parseHeader, List.take_drop, List.take_take]
  rfl

theorem parseHeader_append {buf : Bytes} (x : Bytes) (h : HEADER_LEN ≤ buf.length) :
    parseHeader (buf ++ x) = parseHeader buf := by
  rw [← parseHeader_take, List.take_append_of_le_length h, parseHeader_take]

theorem requestValid_iff {h : ReqHeader} {kr : Bool} :
    requestValid h kr = true ↔
      h.extrasLen ≤ 20 ∧ h.keyLen ≤ 250 ∧ (kr = true → h.keyLen ≠ 0) ∧ h.keyLen + h.extrasLen ≤ h.bodyLen := by
  cases kr <;> simp [requestValid]

theorem le_length_append {n : Nat} {a : Bytes} (h : n ≤ a.length) (b : Bytes) : n ≤ (a ++ b).length := by
  rw [List.length_append]; exact Nat.le_add_right_of_le h

theorem decode1_idle_append {limit : Nat} {buf : Bytes} (x : Bytes) (hl : HEADER_LEN ≤ buf.length)
    (hv : headerValid (parseHeader buf) = true) :
    decode1 limit .idle (buf ++ x) = decode1 limit (.hdr (parseHeader buf)) (buf.drop HEADER_LEN ++ x) := by
  rw [decode1_idle, if_neg (Nat.not_lt.2 (le_length_append hl x)), parseHeader_append x hl, hv,
    List.drop_append_of_le_length hl]
  exact if_neg Bool.false_ne_true

/-- Bytes arriving behind the buffer do not change what a turn has decided. A turn that waited hands `buf ++ x` on to the
    state it waited in; a turn that emitted emits the same event and leaves `x` behind its residue (after a protocol error
    nothing is left). -/
theorem Decode1.append {limit st buf d} (x : Bytes) : Decode1 limit st buf d →
    match d with
    | .needMore st' buf' => decode1 limit st (buf ++ x) = decode1 limit st' (buf' ++ x)
    | .emit e st' buf' => decode1 limit st (buf ++ x) = .emit e st' (buf' ++ x) ∨
        (st' = .dead ∧ decode1 limit st (buf ++ x) = .emit e .dead []) := by
  intro h
  induction h with
  | header hl hv _ ih => rw [decode1_idle_append x hl hv]; exact ih
  | @oversize h buf _ hbig _ ih => rw [decode1_hdr limit h (buf ++ x), if_pos hbig]; exact ih
  | short | wait | dead => rfl
  | skipMore hlt =>
    simp only [decode1, List.nil_append, List.length_append, List.drop_append,
      List.drop_of_length_le (Nat.le_of_lt hlt), Nat.sub_le_iff_le_add', Nat.sub_add_eq]
  | badHeader hl hv =>
    exact .inr ⟨rfl, (Decode1.badHeader (le_length_append hl x) (by rwa [parseHeader_append x hl])).eq⟩
  | frame hle hge hp =>
    exact .inl (List.drop_append_of_le_length hge ▸
      (Decode1.frame hle (le_length_append hge x) (by rwa [List.take_append_of_le_length hge])).eq)
  | badBody hle hge hp =>
    exact .inr ⟨rfl, (Decode1.badBody hle (le_length_append hge x) (by rwa [List.take_append_of_le_length hge])).eq⟩
  | skipped hle =>
    exact .inl (List.drop_append_of_le_length hle ▸ (Decode1.skipped (le_length_append hle x)).eq)

theorem drain_eq (limit : Nat) (st : PState) (buf : Bytes) :
    drain limit st buf =
      match decode1 limit st buf with
      | .needMore st' buf' => ([], st', buf')
      | .emit e st' buf' => (e :: (drain limit st' buf').1, (drain limit st' buf').2) := by
  fun_cases drain limit st buf with
  | case1 st' buf' hd => rw [hd]
  | case2 e st' buf' hd r => rw [hd]

theorem drain_dead (limit : Nat) (b : Bytes) : drain limit .dead b = ([], .dead, []) := by
  rw [drain_eq]; rfl

theorem drain_idle_nil (limit : Nat) : drain limit .idle [] = ([], .idle, []) := by
  rw [drain_eq]; rfl

/-- **stream-append lemma**: draining `buf ++ x` is draining `buf`, then appending `x` to the residue and
    draining again -/
theorem drain_append (limit : Nat) (st : PState) (buf x : Bytes) :
    drain limit st (buf ++ x) =
      ((drain limit st buf).1 ++ (drain limit (drain limit st buf).2.1 ((drain limit st buf).2.2 ++ x)).1,
       (drain limit (drain limit st buf).2.1 ((drain limit st buf).2.2 ++ x)).2) := by
  fun_induction drain limit st buf with
  | case1 st buf st' buf' hd =>
    rw [drain_eq limit st (buf ++ x), drain_eq limit st' (buf' ++ x), (decode1_iff.1 hd).append x]
    rfl
  | case2 st buf e st' buf' hd r ih =>
    rw [drain_eq limit st (buf ++ x)]
    rcases (decode1_iff.1 hd).append x with h | ⟨rfl, h⟩
    · simp only [h, ih, r, List.cons_append]
    · simp only [h, r, drain_dead, List.append_nil]

/-- where `drain` stops the decoder is waiting: without further bytes another turn changes nothing -/
theorem decode1_drain (limit : Nat) (st : PState) (buf : Bytes) :
    decode1 limit (drain limit st buf).2.1 (drain limit st buf).2.2 =
      .needMore (drain limit st buf).2.1 (drain limit st buf).2.2 := by
  fun_induction drain limit st buf with
  | case1 st buf st' buf' hd =>
    -- `Decode1.append` with nothing appended: the state the turn waited in decides as the turn did
    have : decode1 limit st (buf ++ []) = decode1 limit st' (buf' ++ []) := (decode1_iff.1 hd).append []
    rw [List.append_nil, List.append_nil, hd] at this
    exact this.symm
  | case2 _ _ _ _ _ _ _ ih => exact ih

theorem drain_idem (limit : Nat) (st : PState) (buf : Bytes) :
    drain limit (drain limit st buf).2.1 (drain limit st buf).2.2 = ([], (drain limit st buf).2.1, (drain limit st buf).2.2) := by
  rw [drain_eq, decode1_drain]

end Memc

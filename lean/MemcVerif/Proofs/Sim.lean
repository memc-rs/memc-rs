import MemcVerif.Proofs.Loop
import MemcVerif.Proofs.Handle
/-! Two `Cache` implementations related by a simulation (`Sim`) give the same responses to every request and the same bytes
    on every connection: shown for one command (`execOp`: a call of the cache, or a `get` and then perhaps a `set`) and
    carried from there through request, receive loop, `feed` and a connection's whole input (`feedSeq`). An invariant of
    one implementation (`Pres`) is the simulation of the implementation by itself on the states that satisfy it
    (`Pres.toSim`), so it is carried along by the same lemmas (`feedSeq_pres`).

    `Sim` lets the relation be kept only while a sticky flag `ok` holds on the first implementation. The one instance,
    `policy_sim`, keeps its relation unconditionally, and the liftings are stated for that case (`ok` always true). -/
namespace Memc

structure Pres {σ : Type} (C : CacheOps σ) (P : σ → Prop) : Prop where
  get : ∀ a n k, P a → P (C.get a n k).1
  set : ∀ a n k r, P a → P (C.set a n k r).1
  delete : ∀ a k c, P a → P (C.delete a k c).1
  flush : ∀ a n t, P a → P (C.flush a n t)

structure Sim {σ₁ σ₂ : Type} (C₁ : CacheOps σ₁) (C₂ : CacheOps σ₂) (R : σ₁ → σ₂ → Prop) (ok : σ₁ → Prop) : Prop where
  get_sticky : ∀ a n k, ¬ ok a → ¬ ok (C₁.get a n k).1
  set_sticky : ∀ a n k r, ¬ ok a → ¬ ok (C₁.set a n k r).1
  delete_sticky : ∀ a k c, ¬ ok a → ¬ ok (C₁.delete a k c).1
  flush_sticky : ∀ a n t, ¬ ok a → ¬ ok (C₁.flush a n t)
  get : ∀ a b n k, R a b → ok (C₁.get a n k).1 → R (C₁.get a n k).1 (C₂.get b n k).1 ∧ (C₁.get a n k).2 = (C₂.get b n k).2
  set : ∀ a b n k r, R a b → ok (C₁.set a n k r).1 → R (C₁.set a n k r).1 (C₂.set b n k r).1 ∧ (C₁.set a n k r).2 = (C₂.set b n k r).2
  delete : ∀ a b k c, R a b → ok (C₁.delete a k c).1 → R (C₁.delete a k c).1 (C₂.delete b k c).1 ∧ (C₁.delete a k c).2 = (C₂.delete b k c).2
  flush : ∀ a b n t, R a b → ok (C₁.flush a n t) → R (C₁.flush a n t) (C₂.flush b n t)

/-- a connection's whole input: arrivals `(clock reading, bytes)` in order; the bytes written per arrival -/
def feedSeq {σ : Type} (C : CacheOps σ) (limit : Nat) : Conn → σ → List (Nat × Bytes) → Conn × σ × List Bytes
  | c, s, [] => (c, s, [])
  | c, s, (now, chunk) :: rest =>
    let r := feed C limit now c s chunk
    let r2 := feedSeq C limit r.1 r.2.1 rest
    (r2.1, r2.2.1, r.2.2 :: r2.2.2)

theorem Pres.toSim {σ : Type} {C : CacheOps σ} {P : σ → Prop} (H : Pres C P) :
    Sim C C (fun a b => a = b ∧ P a) fun _ => True where
  get_sticky := fun _ _ _ h => h
  set_sticky := fun _ _ _ _ h => h
  delete_sticky := fun _ _ _ h => h
  flush_sticky := fun _ _ _ h => h
  get := by rintro a _ n k ⟨rfl, h⟩ -; exact ⟨⟨rfl, H.get a n k h⟩, rfl⟩
  set := by rintro a _ n k r ⟨rfl, h⟩ -; exact ⟨⟨rfl, H.set a n k r h⟩, rfl⟩
  delete := by rintro a _ k c ⟨rfl, h⟩ -; exact ⟨⟨rfl, H.delete a k c h⟩, rfl⟩
  flush := by rintro a _ n t ⟨rfl, h⟩ -; exact ⟨rfl, H.flush a n t h⟩

section
variable {σ₁ σ₂ : Type} {C₁ : CacheOps σ₁} {C₂ : CacheOps σ₂} {R : σ₁ → σ₂ → Prop}

theorem getThen_sim (S : Sim C₁ C₂ R fun _ => True) {α : Type} (a : σ₁) (b : σ₂) (now : Nat) (k : Key)
    (next : Except CacheError Record → α ⊕ Record × (Except CacheError Nat → α)) (hR : R a b) :
    R (getThen C₁ a now k next).1 (getThen C₂ b now k next).1 ∧ (getThen C₁ a now k next).2 = (getThen C₂ b now k next).2 := by
  obtain ⟨h1, h2⟩ := S.get a b now k hR trivial
  dsimp only [getThen]
  rw [← h2]
  cases next (C₁.get a now k).2 with
  | inl x => exact ⟨h1, rfl⟩
  | inr x =>
    obtain ⟨h3, h4⟩ := S.set _ _ now k x.1 h1 trivial
    exact ⟨h3, congrArg x.2 h4⟩

theorem execOp_sim (S : Sim C₁ C₂ R fun _ => True) (a : σ₁) (b : σ₂) (now : Nat) (op : Op) (hR : R a b) :
    R (execOp C₁ a now op).1 (execOp C₂ b now op).1 ∧ (execOp C₁ a now op).2 = (execOp C₂ b now op).2 := by
  rcases execOp_shape op with ⟨k, next, e⟩ | ⟨k, r, rfl⟩ | ⟨k, c, rfl⟩ | ⟨t, rfl⟩ | rfl
  · rw [e, e]
    exact getThen_sim S a b now k next hR
  · obtain ⟨h1, h2⟩ := S.set a b now k r hR trivial
    exact ⟨h1, congrArg Res.ofCas h2⟩
  · obtain ⟨h1, h2⟩ := S.delete a b k c hR trivial
    exact ⟨h1, congrArg Res.ofDelete h2⟩
  · exact ⟨S.flush a b now t hR trivial, rfl⟩
  · exact ⟨hR, rfl⟩

theorem handle_sim (S : Sim C₁ C₂ R fun _ => True) (a : σ₁) (b : σ₂) (now : Nat) (req : Req) (hR : R a b) :
    R (handleRequest C₁ a now req).1 (handleRequest C₂ b now req).1 ∧
    (handleRequest C₁ a now req).2 = (handleRequest C₂ b now req).2 := by
  rw [handleRequest_execOp, handleRequest_execOp]
  obtain ⟨h1, h2⟩ := execOp_sim S a b now (reqOp req) hR
  exact ⟨h1, congrArg (respond req) h2⟩

theorem execEv_sim (S : Sim C₁ C₂ R fun _ => True) (now : Nat) (a : σ₁) (b : σ₂) (e : Ev) (hR : R a b) :
    R (execEv C₁ now a e).1 (execEv C₂ now b e).1 ∧ (execEv C₁ now a e).2 = (execEv C₂ now b e).2 := by
  cases e with
  | protoErr => exact ⟨hR, rfl⟩
  | frame r =>
    obtain ⟨h1, h2⟩ := handle_sim S a b now r hR
    rw [execEv_frame_eq, execEv_frame_eq, ← h2]
    split
    · exact ⟨hR, rfl⟩
    · exact ⟨h1, rfl⟩

theorem execEvs_sim (S : Sim C₁ C₂ R fun _ => True) (now : Nat) (a : σ₁) (b : σ₂) (es : List Ev) (hR : R a b) :
    R (execEvs C₁ now a es).1 (execEvs C₂ now b es).1 ∧ (execEvs C₁ now a es).2 = (execEvs C₂ now b es).2 := by
  induction es generalizing a b with
  | nil => exact ⟨hR, rfl⟩
  | cons e rest ih =>
    obtain ⟨h1, h2⟩ := execEv_sim S now a b e hR
    obtain ⟨h3, h4⟩ := ih _ _ h1
    dsimp only [execEvs]
    rw [← h2, ← h4]
    split
    · exact ⟨h1, h2⟩
    · exact ⟨h3, rfl⟩

theorem feed_sim (S : Sim C₁ C₂ R fun _ => True) (limit now : Nat) (c : Conn) (a : σ₁) (b : σ₂) (chunk : Bytes)
    (hR : R a b) :
    (feed C₁ limit now c a chunk).1 = (feed C₂ limit now c b chunk).1 ∧
    R (feed C₁ limit now c a chunk).2.1 (feed C₂ limit now c b chunk).2.1 ∧
    (feed C₁ limit now c a chunk).2.2 = (feed C₂ limit now c b chunk).2.2 := by
  cases hc : c.closed with
  | true =>
    rw [feed_closed C₁ hc, feed_closed C₂ hc]
    exact ⟨rfl, hR, rfl⟩
  | false =>
    obtain ⟨h1, h2⟩ := execEvs_sim S now a b (drain limit c.pst (c.buf ++ chunk)).1 hR
    rw [feed_open C₁ hc, feed_open C₂ hc]
    dsimp only
    rw [← h2]
    exact ⟨rfl, h1, rfl⟩

theorem feedSeq_sim (S : Sim C₁ C₂ R fun _ => True) (limit : Nat) (c : Conn) (a : σ₁) (b : σ₂) (fs : List (Nat × Bytes))
    (hR : R a b) :
    (feedSeq C₁ limit c a fs).1 = (feedSeq C₂ limit c b fs).1 ∧
    R (feedSeq C₁ limit c a fs).2.1 (feedSeq C₂ limit c b fs).2.1 ∧
    (feedSeq C₁ limit c a fs).2.2 = (feedSeq C₂ limit c b fs).2.2 := by
  induction fs generalizing c a b with
  | nil => exact ⟨rfl, hR, rfl⟩
  | cons f rest ih =>
    obtain ⟨now, chunk⟩ := f
    obtain ⟨h1, h2, h3⟩ := feed_sim S limit now c a b chunk hR
    dsimp only [feedSeq]
    rw [← h1, ← h3]
    obtain ⟨h4, h5, h6⟩ := ih _ _ _ h2
    exact ⟨h4, h5, congrArg _ h6⟩

end

theorem feedSeq_pres {σ : Type} {C : CacheOps σ} {P : σ → Prop} (H : Pres C P) (limit : Nat) (c : Conn) (a : σ)
    (fs : List (Nat × Bytes)) (h : P a) : P (feedSeq C limit c a fs).2.1 :=
  (feedSeq_sim H.toSim limit c a a fs ⟨rfl, h⟩).2.1.2

end Memc

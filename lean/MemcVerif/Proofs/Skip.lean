import MemcVerif.Model.Skip
/-! Invariant of the discard loop: the capacity offered never exceeds what is still owed. -/
namespace Memc

def SkipSt.Inv (bytes : Nat) (s : SkipSt) : Prop :=
  s.overread = false ∧ s.counter ≤ bytes ∧ (s.done = true → s.counter = bytes) ∧
  (s.done = false → s.cap ≤ bytes - s.counter ∧ 0 < s.cap)

theorem SkipSt.inv_init (bytes : Nat) : (SkipSt.init bytes).Inv bytes := by
  refine ⟨rfl, Nat.zero_le _, fun h => (eq_of_beq h).symm, fun h => ?_⟩
  have : bytes ≠ 0 := by rintro rfl; cases h
  exact ⟨Nat.min_le_left .., Nat.lt_min.2 ⟨Nat.pos_of_ne_zero this, by decide⟩⟩

theorem SkipSt.inv_step {bytes : Nat} {s : SkipSt} {n : Nat} (h : s.Inv bytes) (hd : s.done = false)
    (hcap : n ≤ s.cap) : (s.step bytes n).Inv bytes ∧ (s.step bytes n).counter = s.counter + n := by
  obtain ⟨ho, hle, -, hc⟩ := h
  have hlt : s.counter + n ≤ bytes := Nat.add_le_of_le_sub' hle (Nat.le_trans hcap (hc hd).1)
  unfold step
  simp only [hd, ho, Bool.or_self, Bool.false_eq_true, if_false, beq_iff_eq]
  by_cases he : s.counter + n = bytes
  · rw [if_pos he]; exact ⟨⟨rfl, hlt, fun _ => he, nofun⟩, rfl⟩
  · rw [if_neg he, if_neg (Nat.not_lt.2 hlt)]
    have hpos : 0 < bytes - (s.counter + n) := Nat.sub_pos_of_lt (Nat.lt_of_le_of_ne hlt he)
    refine ⟨⟨rfl, hlt, nofun, fun _ => ?_⟩, rfl⟩
    dsimp only
    by_cases hs : bytes - (s.counter + n) < SKIP_BUF
    · rw [if_pos hs]; exact ⟨Nat.le_refl _, hpos⟩
    · rw [if_neg hs]; exact ⟨Nat.le_of_not_lt hs, by decide⟩

/-- every legal read takes at least one byte, so an unfinished loop has counted at least as many bytes as it made reads:
    after `bytes` reads at the latest it has finished -/
theorem SkipSt.run_inv {bytes : Nat} (ds : List Nat) {s s' : SkipSt} (h : s.Inv bytes)
    (hr : SkipSt.run bytes s ds = some s') : s'.Inv bytes ∧ (s'.done = false → s.counter + ds.length ≤ s'.counter) := by
  fun_induction SkipSt.run bytes s ds with
  | case1 => cases hr; exact ⟨h, fun _ => Nat.le_refl _⟩
  | case2 s _ _ hstop =>
    cases hr
    rw [h.1, Bool.or_false] at hstop
    exact ⟨h, fun hf => Bool.noConfusion (hstop.symm.trans hf)⟩
  | case3 => cases hr
  | case4 s n rest hgo hlegal ih =>
    rw [h.1, Bool.or_false, Bool.not_eq_true] at hgo
    have hpos : 0 < n := Nat.pos_of_ne_zero fun h0 => hlegal (.inl h0)
    obtain ⟨hinv, hcnt⟩ := SkipSt.inv_step h hgo (Nat.le_of_not_lt fun hgt => hlegal (.inr hgt))
    obtain ⟨hinv', hlen⟩ := ih hinv hr
    refine ⟨hinv', fun hf => Nat.le_trans ?_ (hlen hf)⟩
    rw [hcnt, List.length_cons, Nat.add_right_comm, ← Nat.add_assoc]
    exact Nat.add_le_add_left hpos _

end Memc

import MemcVerif.Proofs.Store
import MemcVerif.Proofs.Handle
/-! What one command (`applyOp`) can do to the store. Every command addressed to a key is its `get` (which collects
    the key's record if expired) followed by at most one `set`, or a bare `set` / `delete` (`applyOp_keyed`); from
    that shape follow key isolation, monotonicity of the CAS counter and the per-command case lemma `step_alt`, the
    workhorse of the CAS-uniqueness (C02) and expiry (C05) invariants over histories. -/
namespace Memc
open MemStore

def Op.cas : Op → Nat
  | .set _ r | .add _ r | .replace _ r | .append _ r | .prepend _ r => r.header.cas
  | .delta _ h _ _ _ => h.cas
  | .delete _ c => c
  | .get _ | .flush _ | .nop => 0

def Op.stores : Op → Bool
  | .set _ _ | .add _ _ | .replace _ _ | .append _ _ | .prepend _ _ | .delta _ _ _ _ _ => true
  | .get _ | .delete _ _ | .flush _ | .nop => false

theorem Op.key_eq_none {op : Op} (h : op.key = none) : (∃ t, op = .flush t) ∨ op = .nop := by
  cases op with
  | flush t => exact .inl ⟨t, rfl⟩
  | nop => exact .inr rfl
  | _ => cases h

theorem applyOp_delete (s : MemStore) (now : Nat) (k : Key) (cas : Nat) :
    applyOp s now (.delete k cas) = ((s.delete k cas).1, .ofDelete (s.delete k cas).2) :=
  (execOp_memOps s now (.delete k cas)).symm

/-- the record a command stores after its `get` carries the command's CAS or none, and only a storing command stores -/
theorem Op.next_stores {op : Op} {res : Except CacheError Record} {r : Record} {fin : Except CacheError Nat → Res}
    (h : op.next res = .inr (r, fin)) : (r.header.cas ≠ 0 → r.header.cas = op.cas) ∧ op.stores = true := by
  cases op with
  | add _ _ | replace _ _ | append _ _ | prepend _ _ => cases res <;> cases h <;> exact ⟨fun _ => rfl, rfl⟩
  | delta _ hd _ _ _ =>
    cases res with
    | ok rec =>
      dsimp only [Op.next] at h
      split at h <;> cases h
      exact ⟨fun _ => rfl, rfl⟩
    | error _ =>
      -- created without CAS
      dsimp only [Op.next] at h
      split at h <;> cases h
      exact ⟨fun h0 => absurd rfl h0, rfl⟩
  | _ => cases h

/-- the shape of a command addressed to `k`: its `get` alone; its `get`, then a `set` carrying the command's CAS or none;
    a bare `set`; a bare `delete` -/
theorem applyOp_keyed (s : MemStore) (now : Nat) {op : Op} {k : Key} (hk : op.key = some k) :
    (applyOp s now op).1 = s.collect now k
    ∨ (∃ r, (r.header.cas ≠ 0 → r.header.cas = op.cas) ∧ op.stores = true ∧ (applyOp s now op).1 = ((s.collect now k).set now k r).1)
    ∨ (∃ r, op = .set k r) ∨ (∃ c, op = .delete k c) := by
  by_cases hs : ∃ r, op = .set k r
  · exact .inr (.inr (.inl hs))
  by_cases hd : ∃ c, op = .delete k c
  · exact .inr (.inr (.inr hd))
  rw [← execOp_memOps, execOp_getThen memOps s now hk (fun r e => hs ⟨r, e⟩) (fun c e => hd ⟨c, e⟩), getThen, memOps_get,
    memOps_set, get_eq]
  dsimp only
  cases hn : op.next _ with
  | inl _ => exact .inl rfl
  | inr x => exact .inr (.inl ⟨x.1, (Op.next_stores hn).1, (Op.next_stores hn).2, rfl⟩)

theorem applyOp_frame (s : MemStore) (now : Nat) (op : Op) (k k' : Key) (hk : op.key = some k) (hne : k' ≠ k) :
    (applyOp s now op).1.mem.lookup k' = s.mem.lookup k' := by
  rcases applyOp_keyed s now hk with h | ⟨r, _, _, h⟩ | ⟨r, rfl⟩ | ⟨c, rfl⟩
  · rw [h, collect_lookup_ne s now hne]
  · rw [h, set_lookup_ne _ now r hne, collect_lookup_ne s now hne]
  · exact set_lookup_ne s now r hne
  · rw [applyOp_delete]; exact delete_lookup_ne s c hne

theorem cmd_frame_get {k k' : Key} (s : MemStore) (now : Nat) (h : k' ≠ k) :
    (memOps.get s now k).1.mem.lookup k' = s.mem.lookup k' := get_lookup_ne s now h

theorem applyOp_other (s : MemStore) (now : Nat) (op : Op) (k : Key) (hk : op.key ≠ some k) :
    (∃ t, op = .flush t) ∨ (applyOp s now op).1.mem.lookup k = s.mem.lookup k := by
  cases hk' : op.key with
  | some k0 => exact .inr (applyOp_frame s now op k0 k hk' (fun e => hk (e ▸ hk')))
  | none =>
    rcases Op.key_eq_none hk' with h | rfl
    · exact .inl h
    · exact .inr rfl

theorem applyOp_casId_le (s : MemStore) (now : Nat) (op : Op) : s.casId ≤ (applyOp s now op).1.casId := by
  cases hk : op.key with
  | none =>
    rcases Op.key_eq_none hk with ⟨t, rfl⟩ | rfl
    · exact Nat.le_of_eq (flush_casId s now t).symm
    · exact Nat.le_refl _
  | some k =>
    rcases applyOp_keyed s now hk with h | ⟨r, _, _, h⟩ | ⟨r, rfl⟩ | ⟨c, rfl⟩
    · rw [h, collect_casId]; exact Nat.le_refl _
    · rw [h, ← collect_casId s now k]; exact set_casId_le _ now k r
    · exact set_casId_le s now k r
    · rw [applyOp_delete, delete_casId]; exact Nat.le_refl _

/-- same client-visible item: value, flags and CAS -/
def sameItem (x r : Record) : Prop :=
  r.value = x.value ∧ r.header.flags = x.header.flags ∧ r.header.cas = x.header.cas

theorem sameItem_refl (x : Record) : sameItem x x := ⟨rfl, rfl, rfl⟩

theorem flushRecord_same (now t : Nat) (x : Record) : sameItem x (flushRecord now t x) := by
  unfold flushRecord sameItem; split <;> simp

/-- outcome alternatives for the record of `k` after a command, given it held `x` before: gone; unchanged or touched
    by a delayed flush; written by this command under the next counter value; or — `x` had expired and the command
    carries a CAS — re-created by this command under a CAS derived from the client's -/
def StepAlt (s s' : MemStore) (now : Nat) (op : Op) (k : Key) (x : Record) : Prop :=
    s'.mem.lookup k = none
  ∨ (∃ r', s'.mem.lookup k = some r' ∧ (r' = x ∨ ∃ t, t > 0 ∧ r' = flushRecord now t x))
  ∨ (∃ r', s'.mem.lookup k = some r' ∧ r'.header.cas = s.casId ∧ s'.casId = s.casId + 1 ∧ r'.header.timestamp = now
        ∧ op.key = some k ∧ op.stores = true)
  ∨ (∃ r', s'.mem.lookup k = some r' ∧ x.expired now = true ∧ op.cas ≠ 0 ∧ op.key = some k ∧ r'.header.timestamp = now
        ∧ op.stores = true)

/-- a `set` that finds `x` under `k`: refused, or the record carries the next counter value -/
theorem alt_of_set_present {s : MemStore} {now : Nat} {op : Op} {k : Key} {x : Record} (r : Record)
    (hl : s.mem.lookup k = some x) (hkey : op.key = some k) (hst : op.stores = true) :
    StepAlt s (s.set now k r).1 now op k x := by
  rcases set_cases s now k r with ⟨h1, _⟩ | ⟨h1, _⟩ | ⟨_, h2, _⟩
  · rw [h1]; exact .inr (.inl ⟨x, hl, .inl rfl⟩)
  · rw [h1]; exact .inr (.inr (.inl ⟨_, Mem.lookup_insert_self .., rfl, rfl, rfl, hkey, hst⟩))
  · rw [hl] at h2; cases h2

/-- a `set` after the command's own `get` collected the expired `x`: it goes in, under the next counter value or
    under the successor of the CAS the command carries -/
theorem alt_of_set_collected {s s' : MemStore} {now : Nat} {op : Op} {k : Key} {x : Record} (r : Record)
    (hl' : s'.mem.lookup k = none) (hc : s'.casId = s.casId) (hx : x.expired now = true)
    (hop : r.header.cas ≠ 0 → r.header.cas = op.cas) (hkey : op.key = some k) (hst : op.stores = true) :
    StepAlt s (s'.set now k r).1 now op k x := by
  rcases set_cases s' now k r with ⟨_, old, h2, _⟩ | ⟨h1, _⟩ | ⟨h1, _, h0⟩
  · rw [hl'] at h2; cases h2
  · rw [h1]; exact .inr (.inr (.inl ⟨_, Mem.lookup_insert_self .., hc ▸ rfl, by rw [← hc], rfl, hkey, hst⟩))
  · rw [h1]; exact .inr (.inr (.inr ⟨_, Mem.lookup_insert_self .., hx, hop h0 ▸ h0, hkey, rfl, hst⟩))

/-- everything one command can do to the record of a key that is physically present -/
theorem step_alt (s : MemStore) (now : Nat) (op : Op) (k : Key) (x : Record) (hl : s.mem.lookup k = some x) :
    StepAlt s (applyOp s now op).1 now op k x := by
  by_cases hk : op.key = some k
  · -- `collect` leaves `x` in place, or `x` is expired and gone
    have hcol : s.collect now k = s ∨
        (x.expired now = true ∧ (s.collect now k).mem.lookup k = none) := by
      cases he : x.expired now
      · exact .inl (collect_vis_some (vis_eq_some_iff.mpr ⟨hl, he⟩))
      · exact .inr ⟨rfl, by rw [collect_lookup_self, vis_none_of_expired hl he]⟩
    rcases applyOp_keyed s now hk with h | ⟨r, hcas, hst, h⟩ | ⟨r, rfl⟩ | ⟨c, rfl⟩
    · rw [h]
      rcases hcol with hc | ⟨_, hc⟩
      · rw [hc]; exact .inr (.inl ⟨x, hl, .inl rfl⟩)
      · exact .inl hc
    · rw [h]
      rcases hcol with hc | ⟨hx, hc⟩
      · rw [hc]; exact alt_of_set_present r hl hk hst
      · exact alt_of_set_collected r hc (collect_casId s now k) hx hcas hk hst
    · exact alt_of_set_present r hl rfl rfl
    · rw [applyOp_delete]
      rcases delete_cases s k c with ⟨e, h1⟩ | ⟨r, _, h1⟩ <;> rw [h1]
      · exact .inr (.inl ⟨x, hl, .inl rfl⟩)
      · exact .inl (Mem.lookup_erase_self ..)
  · rcases applyOp_other s now op k hk with ⟨t, rfl⟩ | h
    · by_cases ht : t > 0
      · exact .inr (.inl ⟨flushRecord now t x, by simp [applyOp, flush_lookup, hl, ht], .inr ⟨t, ht, rfl⟩⟩)
      · exact .inl (by simp [applyOp, flush_lookup, ht])
    · exact .inr (.inl ⟨x, h ▸ hl, .inl rfl⟩)

end Memc

import MemcVerif.Proofs.Ops
import MemcVerif.Proofs.Conc
/-! The commands and answers of the micro-step model (`Conc`) read as those of the sequential model (`applyOp`). -/
namespace Memc

def CCmd.toOp : CCmd → Op
  | .get k => .get k
  | .set k r => .set k r
  | .delete k cas => .delete k cas
  | .flush ttl => .flush ttl
  | .add k r => .add k r
  | .replace k r => .replace k r
  | .append k r => .append k r
  | .prepend k r => .prepend k r
  | .delta k h d i inc => .delta k h d i inc

def CRes.toRes : CRes → Res
  | .hit r => .record r
  | .stored c => .stored c
  | .counter c v => .counter ⟨c, v⟩
  | .deleted => .deleted
  | .done => .unit
  | .err e => .err e

theorem resOfCas_toRes (x : Except CacheError Nat) : (resOfCas x).toRes = Res.ofCas x := by
  cases x <;> rfl

theorem delRes_toRes (x : Except CacheError Record) : (delRes x).toRes = Res.ofDelete x := by
  cases x <;> rfl

end Memc

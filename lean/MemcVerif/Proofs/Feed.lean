import MemcVerif.Proofs.Conn
import MemcVerif.Proofs.Loop
/-! Connection level: `feed (feed c a) b = feed c (a ++ b)`, hence only the concatenation of the reads matters (`feedAll_flatten`). -/
namespace Memc

variable {σ : Type} (C : CacheOps σ)

theorem feed_feed (limit now : Nat) (c : Conn) (s : σ) (a b : Bytes) :
    feed C limit now c s (a ++ b) =
      ((feed C limit now (feed C limit now c s a).1 (feed C limit now c s a).2.1 b).1,
       (feed C limit now (feed C limit now c s a).1 (feed C limit now c s a).2.1 b).2.1,
       (feed C limit now c s a).2.2 ++ (feed C limit now (feed C limit now c s a).1 (feed C limit now c s a).2.1 b).2.2) := by
  cases hc : c.closed with
  | true => simp only [feed_closed C hc, List.append_nil]
  | false =>
    rw [feed_open C hc (a ++ b), feed_open C hc a]
    dsimp only
    rw [← List.append_assoc, drain_append, execEvs_append]
    -- did the events of `a` end the loop?
    rcases execEvs C now s (drain limit c.pst (c.buf ++ a)).1 with ⟨s1, o1, _ | _⟩
    · simp only [Bool.false_eq_true, if_false, feed_open C (rfl : (Conn.mk _ _ false).closed = false)]
    · simp only [if_true, feed_closed C (rfl : Conn.dead.closed = true), List.append_nil]

/-- deliver a list of chunks one after the other -/
def feedAll (limit now : Nat) (c : Conn) (s : σ) : List Bytes → Conn × σ × Bytes
  | [] => (c, s, [])
  | ch :: rest =>
    let r1 := feed C limit now c s ch
    let r2 := feedAll limit now r1.1 r1.2.1 rest
    (r2.1, r2.2.1, r1.2.2 ++ r2.2.2)

theorem feedAll_cons_flatten (limit now : Nat) (c : Conn) (s : σ) (ch : Bytes) (rest : List Bytes) :
    feedAll C limit now c s (ch :: rest) = feed C limit now c s (ch ++ rest.flatten) := by
  induction rest generalizing c s ch with
  | nil => simp only [feedAll, List.flatten_nil, List.append_nil]
  | cons b rest ih => rw [feedAll, ih, List.flatten_cons, feed_feed C limit now c s ch (b ++ rest.flatten)]

theorem feedAll_flatten (limit now : Nat) (c : Conn) (s : σ) {cs : List Bytes} (h : cs ≠ []) :
    feedAll C limit now c s cs = feed C limit now c s cs.flatten := by
  cases cs with
  | nil => exact absurd rfl h
  | cons ch rest => exact feedAll_cons_flatten C limit now c s ch rest

end Memc

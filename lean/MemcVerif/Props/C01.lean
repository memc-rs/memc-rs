import MemcVerif.Proofs.Policy
import MemcVerif.Proofs.Ops
import MemcVerif.Proofs.Link
import MemcVerif.Proofs.Frames
/-!
# C01 — stored data is returned exactly (read-your-writes, key isolation, no loss without eviction)

Obligations over the model of `MemoryStore`/`MemcStore` (eviction policy none). Quantifiers: every
store state, key, value, flags, TTL, clock reading and every history of foreign commands of any
length.
-/
namespace Memc
open MemStore

/-- counter-issued CAS values are never 0: the counter starts at 1 and only grows -/
def CounterPos (s : MemStore) : Prop := 1 ≤ s.casId

theorem C01_counter_pos_init : CounterPos MemStore.init := Nat.le_refl 1

/-- an acknowledged unconditional store reports a non-zero CAS -/
theorem C01_ack_nonzero (s : MemStore) (hs : CounterPos s) (now : Nat) (k : Key) (v : Bytes) (f ttl : Nat) :
    ∃ c, (s.set now k (Record.new v 0 f ttl)).2 = .ok c ∧ c ≠ 0 :=
  ⟨s.casId, by rw [set_cas0 _ _ _ _ rfl], Nat.ne_of_gt hs⟩

/-- the record an acknowledged store leaves behind: exactly the value and flags sent, the
    acknowledged CAS, stamped with the time of the store -/
def storedRecord (v : Bytes) (f ttl c t0 : Nat) : Record := ⟨⟨t0, c, f, ttl⟩, v⟩

/-- a command is *foreign* to `k`: addressed to another key, or to no key and not a flush -/
def Foreign (k : Key) (op : Op) : Prop :=
  match op with
  | .flush _ => False
  | .nop => True
  | _ => ∃ k', op.key = some k' ∧ k' ≠ k

/-- **key isolation**: a command addressed to `k` leaves the physical record of every other key
    untouched — hence what any later command returns for that key. All nine command kinds. -/
theorem C01_frame (s : MemStore) (now : Nat) (op : Op) (k k' : Key) (hk : op.key = some k) (hne : k' ≠ k) :
    (applyOp s now op).1.mem.lookup k' = s.mem.lookup k' := applyOp_frame s now op k k' hk hne

theorem foreign_step (s : MemStore) (now : Nat) (op : Op) (k : Key) (h : Foreign k op) :
    (applyOp s now op).1.mem.lookup k = s.mem.lookup k := by
  cases op with
  | flush _ => exact h.elim
  | nop => rfl
  | _ =>
    obtain ⟨k', hk', hne⟩ := h
    exact applyOp_frame s now _ k' k hk' hne.symm

/-- any history of foreign commands, of any length and at any clock readings, leaves `k`'s record alone -/
theorem foreign_history (s : MemStore) (k : Key) (mid : History) (h : ∀ e ∈ mid, Foreign k e.2) :
    (runOps s mid).mem.lookup k = s.mem.lookup k := by
  induction mid generalizing s with
  | nil => rfl
  | cons e rest ih =>
    obtain ⟨now, op⟩ := e
    simp only [runOps]
    rw [ih _ (fun e he => h e (List.mem_cons_of_mem _ he))]
    exact foreign_step s now op k (h (now, op) (List.mem_cons_self ..))

/-- an acknowledged store's record is still in place, exactly as stored, after any history of foreign commands -/
theorem stored_survives_foreign (s : MemStore) (t0 : Nat) (k : Key) (v : Bytes) (f ttl : Nat)
    (mid : History) (hmid : ∀ e ∈ mid, Foreign k e.2) :
    (runOps (s.set t0 k (Record.new v 0 f ttl)).1 mid).mem.lookup k = some (storedRecord v f ttl s.casId t0) := by
  rw [foreign_history _ k mid hmid, set_cas0 s t0 k _ rfl]
  exact Mem.lookup_insert_self ..

/-- **read-your-writes**: after an acknowledged store of `(v, f, ttl)` at `t0`, and after any history
    of commands on other keys, a retrieval at any time before the deadline (any time at all for TTL 0)
    returns exactly `v`, `f` and the acknowledged CAS. -/
theorem C01_read_your_writes (s : MemStore) (t0 : Nat) (k : Key) (v : Bytes) (f ttl : Nat)
    (mid : History) (hmid : ∀ e ∈ mid, Foreign k e.2) (t : Nat) (hlive : ttl = 0 ∨ t < t0 + ttl) :
    let s1 := (s.set t0 k (Record.new v 0 f ttl)).1
    ((runOps s1 mid).get t k).2 = .ok (storedRecord v f ttl s.casId t0)
      ∧ (s.set t0 k (Record.new v 0 f ttl)).2 = .ok s.casId := by
  intro s1
  have hl := stored_survives_foreign s t0 k v f ttl mid hmid
  exact ⟨by rw [get_live hl ((Record.expired_eq_false_iff t _).mpr hlive)],
    by rw [set_cas0 s t0 k _ rfl]⟩

/-- **no loss without eviction**: with policy none a live record disappears only through its own
    delete or an immediate flush (a command on the key at a time when the record is live never drops it) -/
theorem C01_no_loss (s : MemStore) (now : Nat) (op : Op) (k : Key) (r : Record)
    (hl : s.mem.lookup k = some r) (hlive : r.expired now = false)
    (hgone : (applyOp s now op).1.mem.lookup k = none) :
    (∃ c, op = .delete k c) ∨ op = .flush 0 := by
  -- a `set` leaves the old record or puts a new one
  have hset : ∀ y : Record, (s.set now k y).1.mem.lookup k ≠ none := by
    intro y
    rcases set_mem s now k y with h1 | ⟨c, h1⟩ <;> rw [h1]
    · rw [hl]; exact Option.some_ne_none _
    · rw [Mem.lookup_insert_self]; exact Option.some_ne_none _
  by_cases hk : op.key = some k
  · -- addressed to `k`, whose record is live: the command's `get` collects nothing
    have hcol : s.collect now k = s := collect_vis_some (vis_eq_some_iff.mpr ⟨hl, hlive⟩)
    rcases applyOp_keyed s now hk with h | ⟨y, _, _, h⟩ | ⟨y, rfl⟩ | ⟨c, rfl⟩
    · rw [h, hcol, hl] at hgone; cases hgone
    · rw [h, hcol] at hgone; exact absurd hgone (hset y)
    · exact absurd hgone (hset y)
    · exact .inl ⟨c, rfl⟩
  · rcases applyOp_other s now op k hk with ⟨t, rfl⟩ | h
    · by_cases ht : t = 0
      · exact .inr (ht ▸ rfl)
      · rw [applyOp, flush_lookup, hl, if_pos (Nat.pos_of_ne_zero ht)] at hgone; cases hgone
    · rw [h, hl] at hgone; cases hgone

/-- the premises of `C01_read_your_writes` are met by a concrete non-trivial history -/
example : ∀ e ∈ ([(3, .set [2] (Record.new [9] 0 0 0)), (4, .delete [3] 0), (9, .get [7])] : History), Foreign [1] e.2 :=
  List.forall_mem_cons.mpr ⟨⟨[2], rfl, by decide⟩, List.forall_mem_cons.mpr ⟨⟨[3], rfl, by decide⟩,
    List.forall_mem_singleton.mpr ⟨[7], rfl, by decide⟩⟩⟩

/-! ## from the wire to the commands

The theorems above are about store commands. What the driver runs — and what is compared with the
implementation — is the connection model: bytes → decoder → `handleRequest` → encoded responses. The next
theorems say that this pipeline is the commands: the request handler is `applyOp ∘ reqOp` followed by
response construction, and a pipelined byte stream of acceptable frames moves the store by exactly the
frames' commands, in order, and writes exactly their responses, in order. -/

/-- `BinaryHandler::handle_request` = run the request's command, then build the response from its result -/
theorem C01_handler_is_command (s : MemStore) (now : Nat) (req : Req) :
    handleRequest memOps s now req =
      ((applyOp s now (reqOp req)).1, respond req (applyOp s now (reqOp req)).2) :=
  handleRequest_eq s now req

/-- a fresh connection fed any concatenation of complete acceptable frames whose requests do not end the
    connection: the connection is idle again with nothing buffered, the store is the commands' store and
    the bytes written are the responses in request order — for every number of frames and every frame -/
theorem C01_wire_to_command (limit now : Nat) (s : MemStore) (frames : List (Bytes × ReqHeader)) (reqs : List Req)
    (hall : ∀ f ∈ frames, IsFrame f.1 f.2 ∧ frameOK limit f.1 f.2 = true)
    (hev : frames.map (fun f => frameEv limit f.1 f.2) = reqs.map .frame)
    (hl : ∀ r ∈ reqs, r.leaves = false) :
    feed memOps limit now Conn.init s (frames.map (·.1)).flatten =
      (⟨.idle, [], false⟩, runOps s (reqs.map (fun r => (now, reqOp r))), respondAll now s reqs) := by
  simp only [feed, Conn.init, List.nil_append, drain_frames_nil limit frames hall, hev, execEvs_frames now s reqs hl]
  rfl

/-- one arrival of bytes on a connection: the clock reading, the frames it is made of, and the requests
    those frames stand for -/
structure Batch where
  now : Nat
  frames : List (Bytes × ReqHeader)
  reqs : List Req

def Batch.bytes (b : Batch) : Bytes := (b.frames.map (·.1)).flatten
def Batch.ops (b : Batch) : History := b.reqs.map (fun r => (b.now, reqOp r))

def Batch.OK (limit : Nat) (b : Batch) : Prop :=
  (∀ f ∈ b.frames, IsFrame f.1 f.2 ∧ frameOK limit f.1 f.2 = true) ∧
  b.frames.map (fun f => frameEv limit f.1 f.2) = b.reqs.map .frame ∧
  (∀ r ∈ b.reqs, r.leaves = false)

/-- successive arrivals on one connection, each at its own clock reading -/
def feedBatches (limit : Nat) : Conn → MemStore → List Batch → Conn × MemStore × Bytes
  | c, s, [] => (c, s, [])
  | c, s, b :: rest =>
    let r := feed memOps limit b.now c s b.bytes
    let r2 := feedBatches limit r.1 r.2.1 rest
    (r2.1, r2.2.1, r.2.2 ++ r2.2.2)

theorem runOps_append (s : MemStore) (a b : History) : runOps s (a ++ b) = runOps (runOps s a) b := by
  induction a generalizing s with
  | nil => rfl
  | cons e rest ih => obtain ⟨n, op⟩ := e; simp only [List.cons_append, runOps]; exact ih _

/-- a whole connection's life — any number of arrivals at any clock readings, each any number of
    acceptable frames — moves the store by exactly the commands of the frames, in order -/
theorem C01_wire_history (limit : Nat) (s : MemStore) (bs : List Batch) (hok : ∀ b ∈ bs, b.OK limit) :
    (feedBatches limit Conn.init s bs).1 = Conn.init ∧
    (feedBatches limit Conn.init s bs).2.1 = runOps s (bs.flatMap Batch.ops) := by
  induction bs generalizing s with
  | nil => exact ⟨rfl, rfl⟩
  | cons b rest ih =>
    obtain ⟨h1, h2, h3⟩ := hok b (List.mem_cons_self ..)
    have hf := C01_wire_to_command limit b.now s b.frames b.reqs h1 h2 h3
    simp only [feedBatches, Batch.bytes, hf, List.flatMap_cons, runOps_append]
    exact ih _ (fun x hx => hok x (List.mem_cons_of_mem _ hx))

/-- **read-your-writes on the wire**: a Set frame for `(k, v, f, ttl)` with CAS 0 arrives at `t0`; then any
    arrivals whose frames' commands address other keys; then a Get frame for `k` arrives at `t` before the
    deadline. The bytes written back for the Get are exactly the encoding of a Get response carrying `v`,
    `f` and the CAS the Set was acknowledged with. -/
theorem C01_wire_read_your_writes (limit : Nat) (s : MemStore) (t0 t : Nat) (k : Key) (v : Bytes) (f ttl : Nat)
    (hs hg : ReqHeader) (fset fget : Bytes) (mid : List Batch)
    (hset : Batch.OK limit ⟨t0, [(fset, hs)], [.set hs f ttl k v]⟩) (hsop : isSetOp hs.opcode = true) (hcas : hs.cas = 0)
    (hmid : ∀ b ∈ mid, b.OK limit) (hfor : ∀ b ∈ mid, ∀ e ∈ b.ops, Foreign k e.2)
    (hget : Batch.OK limit ⟨t, [(fget, hg)], [.get hg k]⟩) (hgop : quietGetOp hg.opcode = false)
    (hlive : ttl = 0 ∨ t < t0 + ttl) :
    let st := (feedBatches limit Conn.init s (⟨t0, [(fset, hs)], [.set hs f ttl k v]⟩ :: mid)).2.1
    (feed memOps limit t Conn.init st fget).2.2 =
      encode (.get { opcode := hg.opcode, opaq := hg.opaq,
                     bodyLen := v.length + 4 + (if getKeyOp hg.opcode then k else []).length,
                     keyLen := (if getKeyOp hg.opcode then k else []).length, extrasLen := 4, cas := s.casId }
                f (if getKeyOp hg.opcode then k else []) v) := by
  intro st
  -- the Set frame stands for the command `set k (v, f, ttl)` without CAS
  have hop : reqOp (.set hs f ttl k v) = .set k (Record.new v 0 f ttl) := hcas ▸ if_pos hsop
  have hst : st = runOps (s.set t0 k (Record.new v 0 f ttl)).1 (mid.flatMap Batch.ops) := by
    rw [show st = _ from (C01_wire_history limit s _ (List.forall_mem_cons.mpr ⟨hset, hmid⟩)).2,
      List.flatMap_cons, runOps_append, Batch.ops, List.map_cons, hop]
    rfl
  have hl : st.mem.lookup k = some (storedRecord v f ttl s.casId t0) :=
    hst ▸ stored_survives_foreign s t0 k v f ttl _
      (fun e he => let ⟨b, hb, heb⟩ := List.mem_flatMap.mp he; hfor b hb e heb)
  -- the Get frame, alone in its arrival, is answered from `st`, where the record is visible
  obtain ⟨h1, h2, h3⟩ := hget
  have hf := C01_wire_to_command limit t st [(fget, hg)] [.get hg k] h1 h2 h3
  simp only [List.map_cons, List.map_nil, List.flatten_cons, List.flatten_nil, List.append_nil] at hf
  rw [hf]
  simp only [respondAll, reqOp, applyOp, List.append_nil,
    get_live hl ((Record.expired_eq_false_iff t _).mpr hlive)]
  dsimp only [respond, Req.header]
  simp only [hgop, Bool.false_eq_true, if_false]
  rfl

def exSet : Bytes := [0x80, 0x01, 0, 1, 8, 0, 0, 0, 0, 0, 0, 10, 0, 0, 0, 7, 0, 0, 0, 0, 0, 0, 0, 0,
                      0, 0, 0, 5, 0, 0, 0, 0, 97, 120]
def exGet : Bytes := [0x80, 0x00, 0, 1, 0, 0, 0, 0, 0, 0, 0, 1, 0, 0, 0, 8, 0, 0, 0, 0, 0, 0, 0, 0, 97]

/-- the premises of `C01_wire_to_command` are met by a concrete pipeline: a Set frame followed by a Get frame -/
example :
    let frames := [(exSet, parseHeader exSet), (exGet, parseHeader exGet)]
    let reqs := [Req.set (parseHeader exSet) 5 0 [97] [120], Req.get (parseHeader exGet) [97]]
    (∀ f ∈ frames, IsFrame f.1 f.2 ∧ frameOK 1000 f.1 f.2 = true) ∧
    frames.map (fun f => frameEv 1000 f.1 f.2) = reqs.map .frame ∧ (∀ r ∈ reqs, r.leaves = false) := by
  refine ⟨?_, rfl, by decide⟩
  exact List.forall_mem_cons.mpr ⟨⟨⟨by decide, rfl⟩, by decide⟩, List.forall_mem_singleton.mpr ⟨⟨by decide, rfl⟩, by decide⟩⟩

/-- the premises of `C01_wire_read_your_writes` are met by these two frames (Set with CAS 0, loud Get) -/
example : Batch.OK 1000 ⟨3, [(exSet, parseHeader exSet)], [.set (parseHeader exSet) 5 0 [97] [120]]⟩ ∧
    isSetOp (parseHeader exSet).opcode = true ∧ (parseHeader exSet).cas = 0 ∧
    Batch.OK 1000 ⟨9, [(exGet, parseHeader exGet)], [.get (parseHeader exGet) [97]]⟩ ∧
    quietGetOp (parseHeader exGet).opcode = false :=
  ⟨⟨List.forall_mem_singleton.mpr ⟨⟨by decide, rfl⟩, by decide⟩, rfl, by decide⟩, by decide, by decide,
   ⟨List.forall_mem_singleton.mpr ⟨⟨by decide, rfl⟩, by decide⟩, rfl, by decide⟩, by decide⟩

/-- **read-your-writes behind the eviction policy**: whatever the memory limit, the accounted usage and the victims the
    store's own eviction takes, a store (no CAS) is acknowledged and an immediate retrieval returns exactly its value and
    flags — the store's record is never among its own victims -/
theorem C01_read_your_writes_any_limit (p : Policy) (now : Nat) (k : Key) (v : Bytes) (f ttl : Nat) :
    (p.set now k (Record.new v 0 f ttl)).2 = .ok p.inner.casId ∧
    ((p.set now k (Record.new v 0 f ttl)).1.get now k).2 = .ok ⟨⟨now, p.inner.casId, f, ttl⟩, v⟩ := by
  obtain ⟨hack, hl⟩ := policy_set_cas0 p now k (Record.new v 0 f ttl) rfl
  refine ⟨hack, ?_⟩
  simp only [Policy.get]
  rw [get_live hl (stamp_fresh_not_expired _ _ _)]; rfl

end Memc

#print axioms Memc.C01_counter_pos_init
#print axioms Memc.C01_ack_nonzero
#print axioms Memc.C01_frame
#print axioms Memc.C01_read_your_writes
#print axioms Memc.C01_no_loss
#print axioms Memc.foreign_step
#print axioms Memc.foreign_history
#print axioms Memc.stored_survives_foreign
#print axioms Memc.C01_handler_is_command
#print axioms Memc.C01_wire_to_command
#print axioms Memc.runOps_append
#print axioms Memc.C01_wire_history
#print axioms Memc.C01_wire_read_your_writes
#print axioms Memc.C01_read_your_writes_any_limit

import MemcVerif.Proofs.Lin
/-!
# C03 — concurrent get / set / CAS-set / delete on a key are atomic

Model: `Conc` — every `Cache` trait call is one atomic step on the shared store, `Cache::get` is two of them
(snapshot, then "collect the stored record if *it* is expired"); any number of threads, any schedule. The
clock is constant during a concurrent phase.

Because every command has exactly one effectful call (set: the store call; delete: the remove_if; get: none —
its answer is fixed by the snapshot, and its second call only ever removes a record that is expired, i.e.
invisible), each command takes effect at one call inside its interval: the order of those calls is the
one-at-a-time order. The theorems below are the facts this argument rests on, proved for every state.
OS-level atomicity of a single DashMap call is trusted; the `sched` and `stress` suites tie it.
-/
namespace Memc
open MemStore

/-- the second half of `get` answers from the snapshot alone … -/
theorem C03_get_decides_on_snapshot (s : MemStore) (now : Nat) (k : Key) (snap : Record) :
    (s.checkIfExpired now k snap).2 = snap.expired now := by
  rw [checkIfExpired_eq]

/-- … and changes the store only by removing a record that is itself expired (hence invisible): every
    other key, and a live record under the same key, are left exactly as they are -/
theorem C03_collect_only_expired (s : MemStore) (now : Nat) (k : Key) (snap : Record) :
    (s.checkIfExpired now k snap).1 = s ∨
    (∃ cur, s.mem.lookup k = some cur ∧ cur.expired now = true ∧
      (s.checkIfExpired now k snap).1 = { s with mem := s.mem.erase k }) := by
  rw [checkIfExpired_eq]
  split
  · rcases collect_cases s now k with ⟨hc, _⟩ | ⟨cur, hl, hcur, _, hc⟩
    · exact .inl hc
    · exact .inr ⟨cur, hl, hcur, hc⟩
  · exact .inl rfl

/-- a store acknowledged at time `now` is not undone by a collection running at any time `now'` at which the stored
    item is still within its life (TTL 0, or `now' < now + TTL`) — whatever snapshot, however old, the collecting
    reader holds -/
theorem C03_ack_not_undone_later (s : MemStore) (now now' : Nat) (k : Key) (r snap : Record) (c : Nat)
    (hack : (s.set now k r).2 = .ok c) (hlive : r.header.ttl = 0 ∨ now' < now + r.header.ttl) :
    ((s.set now k r).1.checkIfExpired now' k snap).1 = (s.set now k r).1 := by
  refine checkIfExpired_live (fun y hy => ?_) snap
  cases (set_ok_lookup hack).symm.trans hy
  exact stamp_live c hlive

/-- in particular, with the clock standing still: **an acknowledged store is never undone by a concurrent
    retrieval**, including one that is collecting the expired predecessor it read earlier: whatever snapshot the
    reader holds, its collection step leaves a record stored at the current time in place -/
theorem C03_ack_not_undone (s : MemStore) (now : Nat) (k : Key) (r snap : Record) (c : Nat)
    (hack : (s.set now k r).2 = .ok c) :
    ((s.set now k r).1.checkIfExpired now k snap).1 = (s.set now k r).1 :=
  C03_ack_not_undone_later s now now k r snap c hack ((Nat.eq_zero_or_pos _).imp_right Nat.lt_add_of_pos_right)

/-- the calls that may hit key `k` while CAS-stores with the same token race: the stores themselves and the two
    halves of any number of concurrent gets -/
inductive Call
  | casSet (r : Record)
  | snapshot
  | collect (snap : Record)
deriving Repr

def runCalls (now : Nat) (k : Key) : MemStore → List Call → MemStore × Nat
  | s, [] => (s, 0)
  | s, .casSet r :: rest =>
    let x := s.set now k r
    let y := runCalls now k x.1 rest
    (y.1, (match x.2 with | .ok _ => 1 | .error _ => 0) + y.2)
  | s, .snapshot :: rest => runCalls now k s rest
  | s, .collect snap :: rest => runCalls now k (s.checkIfExpired now k snap).1 rest

/-- once a CAS-store with token `c` has won, the item carries a different CAS and is live: the state in which
    every further store with token `c` fails -/
def Won (s : MemStore) (now : Nat) (k : Key) (c : Nat) : Prop :=
  ∃ y, s.mem.lookup k = some y ∧ y.header.cas ≠ c ∧ y.expired now = false

theorem won_no_more_wins (now : Nat) (k : Key) (c : Nat) (calls : List Call)
    (hall : ∀ call ∈ calls, ∀ r, call = .casSet r → r.header.cas = c) (hc : c ≠ 0) :
    ∀ s, Won s now k c → (runCalls now k s calls).2 = 0 := by
  induction calls with
  | nil => intro s _; rfl
  | cons call rest ih =>
    intro s hw
    obtain ⟨hcall, hrest⟩ := List.forall_mem_cons.mp hall
    have ⟨y, hl, hne, hlive⟩ := hw
    cases call with
    | casSet r =>
      have hr : r.header.cas = c := hcall r rfl
      simp only [runCalls, set_mismatch s now k r y (hr ▸ hc) hl (hr ▸ hne)]
      exact (Nat.zero_add _).trans (ih hrest s hw)
    | snapshot => exact ih hrest s hw
    | collect snap =>
      -- the item is live: the collection does nothing
      simp only [runCalls, checkIfExpired_live (fun r hr => Option.some.inj (hl.symm.trans hr) ▸ hlive) snap]
      exact ih hrest s hw

/-- **of any number of concurrent CAS-stores carrying the same CAS at most one succeeds**, under every
    interleaving with each other and with the two halves of any number of concurrent gets, from every initial
    state of the key (absent, present, present-but-expired); `c` is a token the counter has passed -/
theorem C03_one_cas_winner (now : Nat) (k : Key) (c : Nat) (calls : List Call)
    (hall : ∀ call ∈ calls, ∀ r, call = .casSet r → r.header.cas = c) (hc : c ≠ 0) (hmax : c + 1 < U64) :
    ∀ s, c < s.casId → (runCalls now k s calls).2 ≤ 1 := by
  induction calls with
  | nil => intro s _; exact Nat.zero_le 1
  | cons call rest ih =>
    intro s hfresh
    obtain ⟨hcall, hrest⟩ := List.forall_mem_cons.mp hall
    cases call with
    | snapshot => exact ih hrest s hfresh
    | collect snap =>
      rcases C03_collect_only_expired s now k snap with h | ⟨cur, _, _, h⟩ <;> simp only [runCalls, h]
      · exact ih hrest s hfresh
      · exact ih hrest _ hfresh
    | casSet r =>
      have hr : r.header.cas = c := hcall r rfl
      -- once this store is in, under whatever CAS other than `c`, nobody else wins
      have hwin : ∀ {n c'}, c' ≠ c → (runCalls now k ⟨s.mem.insert k (stamp r c' now), n⟩ rest).2 = 0 :=
        fun h => won_no_more_wins now k c rest hrest hc _ ⟨_, Mem.lookup_insert_self .., h, stamp_fresh_not_expired ..⟩
      dsimp only [runCalls]
      rcases set_cases s now k r with ⟨h1, _⟩ | ⟨h1, _⟩ | ⟨h1, hl, _⟩ <;> rw [h1]
      · exact Nat.le_trans (Nat.le_of_eq (Nat.zero_add _)) (ih hrest s hfresh)
      · -- it gets a counter-issued CAS
        exact Nat.le_of_eq (congrArg (1 + ·) (hwin (show s.casId ≠ c by omega)))
      · -- the key was absent: it gets CAS c+1
        exact Nat.le_of_eq (congrArg (1 + ·) (hwin (show satSucc r.header.cas ≠ c by simp [satSucc, hr, hmax])))

/-- non-vacuity: three racing CAS-stores with token 1 and a concurrent get, item present with CAS 1 -/
example : (runCalls 0 [1] ⟨[([1], ⟨⟨0, 1, 0, 0⟩, [65]⟩)], 2⟩
    [.snapshot, .casSet (Record.new [66] 1 0 0), .casSet (Record.new [67] 1 0 0), .collect ⟨⟨0, 1, 0, 0⟩, [65]⟩,
     .casSet (Record.new [68] 1 0 0)]).2 = 1 := by decide

/-! ## Linearizability of whole executions

`Sys.run` is the concurrent system: any number of client threads, each running its own program of get / set /
CAS-set / delete commands (on any keys — in particular all on one), interleaved call by call by an arbitrary
schedule. The theorems say that what the clients were answered and what the store holds afterwards are those of
the commands taking effect **one at a time**, each at one moment between its first and its last call. -/

/-- **every execution is a sequence of atomic events**: for every initial store, every number of clients, all
    programs of get/set/CAS-set/delete and every schedule (finished or not) there is a log — one event per started
    command, in the order of their linearization points, plus internal collections of expired records — such that
    the store is the log's result, each client's started commands appear in the log in that client's own order, and
    each client has been answered (or, between the two calls of a get, is already owed) exactly the log's results
    for it. -/
theorem C03_execution_is_atomic_events (sys0 : Sys) (hfresh : sys0.fresh) (now : Nat) (sched : List Nat) :
    ∃ log : List Ev,
      (sys0.run now sched).store = (runEvs sys0.store now log).1 ∧
      (sys0.run now sched).threads.length = sys0.threads.length ∧
      ∀ i t0 t, sys0.threads[i]? = some t0 → (sys0.run now sched).threads[i]? = some t →
        t0.todo = cmdsOf i log ++ t.todo ∧
        outsOf i (runEvs sys0.store now log).2 = t.results ++ t.pending now := by
  obtain ⟨log, h⟩ := rel_run now sys0 hfresh sched
  exact ⟨log, h.store, h.len, fun i t0 t h0 h1 => ⟨(h.thr i t0 t h0 h1).todo, (h.thr i t0 t h0 h1).outs⟩⟩

/-- the internal event of that log — the collection half of a get — never changes what any retrieval of any key
    can see: it removes at most a record whose deadline has passed -/
theorem C03_collect_invisible (s : MemStore) (now : Nat) (k : Key) (snap : Record) (k' : Key) :
    (s.checkIfExpired now k snap).1.vis now k' = s.vis now k' := by
  rcases C03_collect_only_expired s now k snap with h | ⟨cur, hl, he, h⟩ <;> rw [h]
  exact vis_erase_of_vis_none (vis_none_of_expired hl he) k'

/-- **linearizability** against the sequential model (`applyOp`, the model of C01, C02, C05–C08), stated for
    concurrent phases in which nothing stored has passed its deadline (then collections do nothing; with expired
    records around, `C03_execution_is_atomic_events` and `C03_collect_invisible` are the statement): when every
    client has finished there is **one one-at-a-time ordering** `lin` of all commands that respects each client's
    own order, whose sequential execution ends in exactly the final store and hands every client exactly the
    responses it received. -/
theorem C03_linearizable (sys0 : Sys) (hfresh : sys0.fresh) (now : Nat) (sched : List Nat)
    (hlive : AllLive sys0.store now) (hq : (sys0.run now sched).quiescent = true) :
    ∃ lin : List (Nat × CCmd),
      (sys0.run now sched).store = (runSeq sys0.store now lin).1 ∧
      ∀ i t0 t, sys0.threads[i]? = some t0 → (sys0.run now sched).threads[i]? = some t →
        (lin.filterMap (fun p => if p.1 = i then some p.2 else none) = t0.todo) ∧
        (t.results.map CRes.toRes =
          (runSeq sys0.store now lin).2.filterMap (fun p => if p.1 = i then some p.2 else none)) := by
  obtain ⟨log, h⟩ := rel_run now sys0 hfresh sched
  obtain ⟨e1, e2, _⟩ := runEvs_eq_runSeq now log h.plainLog sys0.store hlive
  refine ⟨linOf log, by rw [h.store, e1], ?_⟩
  intro i t0 t h0 h1
  obtain ⟨htodo, houts, _, _⟩ := h.thr i t0 t h0 h1
  obtain ⟨hnil, hidle⟩ := Thread.finished_iff.mp (List.all_eq_true.mp hq t (List.mem_of_getElem? h1))
  constructor
  · rw [cmdsOf_linOf, htodo, hnil, List.append_nil]
  · rw [← e2, outsOf_toRes, houts, Thread.pending, hidle, List.append_nil]

/-- non-vacuity: two clients racing a CAS-store, a get and a delete on one key from a fresh, live state; the schedule
    interleaves the two halves of the get with the other client's store -/
example : let sys0 : Sys := ⟨⟨[([1], ⟨⟨0, 1, 0, 0⟩, [65]⟩)], 2⟩,
      [{ todo := [.get [1], .delete [1] 0] }, { todo := [.set [1] (Record.new [66] 1 0 0)] }]⟩
    sys0.fresh ∧ AllLive sys0.store 0 ∧ (sys0.run 0 [0, 1, 0, 0]).quiescent = true := by
  refine ⟨?_, ?_, by decide⟩
  · unfold Sys.fresh
    decide
  · intro k r h
    cases List.mem_singleton.mp (Mem.lookup_some_mem h)
    rfl

/-- the schedules the `sched` suite drives may contain a tick of the clock and a stale clock reading (`Sys.runToks`);
    without them they are the schedules of the theorems above -/
theorem C03_runToks_of_grants (sys : Sys) (now : Nat) (is : List Nat) :
    sys.runToks now (is.map Tok.grant) = (sys.run now is, now) := by
  induction is generalizing sys with
  | nil => rfl
  | cons i rest ih => dsimp only [List.map, Sys.runToks, Sys.run, List.foldl]; exact ih _

end Memc

#print axioms Memc.C03_get_decides_on_snapshot
#print axioms Memc.C03_collect_only_expired
#print axioms Memc.C03_ack_not_undone
#print axioms Memc.won_no_more_wins
#print axioms Memc.C03_one_cas_winner
#print axioms Memc.C03_execution_is_atomic_events
#print axioms Memc.C03_collect_invisible
#print axioms Memc.C03_linearizable
#print axioms Memc.C03_ack_not_undone_later
#print axioms Memc.C03_runToks_of_grants

import MemcVerif.Proofs.Policy
import MemcVerif.Model.Server
import MemcVerif.Proofs.PolicySim
import MemcVerif.Props.C01
/-!
# C20 — behaviour is the same under every runtime configuration

Two parts are logic and are proved here: (1) with eviction policy random and a limit that is not reached, every
`Cache` call of `RandomPolicy` answers exactly as `MemoryStore` and leaves the same content
(`C20_policy_transparent_*`) — and `BinaryHandler`/`MemcStore` are generic in the `Cache`, so they cannot tell
the two apart; (2) what `create_memcrs_server` builds depends on runtime type, thread count and port in nothing
that a single connection can observe, and enforces the configured limits (`C20_limits_enforced`,
`C20_config_independent`). (1) is lifted through the generic code to whole connections
(`C20_policy_transparent_request`, `C20_policy_transparent_stream`, `C20_limit_never_reached`): the bytes written
are the same, for every byte stream, every segmentation and every clock. That the two tokio runtimes, any worker-thread count and any port behave alike, and
that expiry follows real seconds, is observed by the `config` suite on the real binary (partial).
-/
namespace Memc

/-- no eviction happens and nothing is refused while the accounted usage stays within the limit: `set` is the
    inner store's `set` plus bookkeeping -/
theorem C20_policy_transparent_set (p : Policy) (now : Nat) (k : Key) (r : Record)
    (hroom : p.usage + r.len ≤ p.limit) (hnw : p.usage + r.len < U64) (htape : p.tape = []) :
    (p.set now k r).1.inner = (p.inner.set now k r).1 ∧ (p.set now k r).2 = (p.inner.set now k r).2 ∧
    (p.set now k r).1.usage = p.usage + r.len ∧ (p.set now k r).1.bad = p.bad := by
  rw [Policy.set_roomy p now k r htape hroom hnw]
  exact ⟨rfl, rfl, rfl, rfl⟩

theorem C20_policy_transparent_get (p : Policy) (now : Nat) (k : Key) :
    (p.get now k).1.inner = (p.inner.get now k).1 ∧ (p.get now k).2 = (p.inner.get now k).2 :=
  ⟨rfl, rfl⟩

theorem C20_policy_transparent_delete (p : Policy) (k : Key) (cas : Nat) :
    (p.delete k cas).1.inner = (p.inner.delete k cas).1 ∧ (p.delete k cas).2 = (p.inner.delete k cas).2 := by
  rw [Policy.delete_eq]
  exact ⟨rfl, rfl⟩

theorem C20_policy_transparent_flush (p : Policy) (now ttl : Nat) : (p.flush now ttl).inner = p.inner.flush now ttl := rfl

/-! In the next two theorems the proof does not use `hok` (hence the linter's two warnings): in the model evictions are
    read off the tape, so with an empty tape nothing can be evicted whatever `bad` says (`policy_sim`). The premise says
    that the run is one the real code could have made: the tape records its victims, and `bad = false` that the loop
    never had to evict. -/

/-- `BinaryHandler` and `MemcStore` are generic in the `Cache`: for every request, every policy state whose
    limit has not been reached so far (`bad = false`: nothing was evicted) and still is not after the request,
    the response is the one the bare store gives and the stored content stays the same -/
theorem C20_policy_transparent_request (p : Policy) (now : Nat) (req : Req) (htape : p.tape = [])
    (hok : (handleRequest polOps p now req).1.bad = false) :
    (handleRequest polOps p now req).1.inner = (handleRequest memOps p.inner now req).1 ∧
    (handleRequest polOps p now req).2 = (handleRequest memOps p.inner now req).2 := by
  obtain ⟨h1, h2⟩ := handle_sim policy_sim p p.inner now req ⟨rfl, htape⟩
  exact ⟨h1.1, h2⟩

/-- **policy transparency for whole connections**: any sequence of arrivals (any bytes, valid or not, cut
    anywhere, at any clock readings) on a connection in any state; if the limit is not reached by the end — the
    policy evicted nothing — then the connection state, the bytes written for every arrival and the stored
    content are those of the server without eviction policy -/
theorem C20_policy_transparent_stream (limit : Nat) (c : Conn) (p : Policy) (fs : List (Nat × Bytes))
    (htape : p.tape = []) (hok : (feedSeq polOps limit c p fs).2.1.bad = false) :
    (feedSeq polOps limit c p fs).1 = (feedSeq memOps limit c p.inner fs).1 ∧
    (feedSeq polOps limit c p fs).2.1.inner = (feedSeq memOps limit c p.inner fs).2.1 ∧
    (feedSeq polOps limit c p fs).2.2 = (feedSeq memOps limit c p.inner fs).2.2 := by
  obtain ⟨h1, h2, h3⟩ := feedSeq_sim policy_sim limit c p p.inner fs ⟨rfl, htape⟩
  exact ⟨h1, h2.1, h3⟩

/-- a limit that cannot be reached (at least 2^64 - 1, the default `--memory-limit` is far below, but the
    statement needs no workload assumption): nothing is ever evicted, so every connection behaves as without
    policy — unconditionally -/
theorem C20_limit_never_reached (limit : Nat) (c : Conn) (p : Policy) (fs : List (Nat × Bytes))
    (hp : p.Unreachable) :
    (feedSeq polOps limit c p fs).1 = (feedSeq memOps limit c p.inner fs).1 ∧
    (feedSeq polOps limit c p fs).2.2 = (feedSeq memOps limit c p.inner fs).2.2 := by
  have hend := feedSeq_pres policy_unreachable limit c p fs hp
  obtain ⟨h1, _, h3⟩ := C20_policy_transparent_stream limit c p fs hp.2.1 hend.2.2
  exact ⟨h1, h3⟩

/-- with room for the record (`usage + len ≤ limit`) a store is not an eviction: the premise `bad = false` of
    the two theorems above is what "limit not reached" means, store by store -/
theorem C20_room_means_ok (p : Policy) (now : Nat) (k : Key) (r : Record)
    (hroom : p.usage + r.len ≤ p.limit) (hnw : p.usage + r.len < U64) (htape : p.tape = []) (hb : p.bad = false) :
    (p.set now k r).1.bad = false :=
  (C20_policy_transparent_set p now k r hroom hnw htape).2.2.2.trans hb

theorem feedSeq_append {σ : Type} (C : CacheOps σ) (limit : Nat) (c : Conn) (s : σ) (a b : List (Nat × Bytes)) :
    feedSeq C limit c s (a ++ b) =
      ((feedSeq C limit (feedSeq C limit c s a).1 (feedSeq C limit c s a).2.1 b).1,
       (feedSeq C limit (feedSeq C limit c s a).1 (feedSeq C limit c s a).2.1 b).2.1,
       (feedSeq C limit c s a).2.2 ++ (feedSeq C limit (feedSeq C limit c s a).1 (feedSeq C limit c s a).2.1 b).2.2) := by
  induction a generalizing c s with
  | nil => rfl
  | cons e rest ih =>
    obtain ⟨now, chunk⟩ := e
    dsimp only [List.cons_append, feedSeq]
    rw [ih]

/-- arrivals of whole batches: the connection model over the bare store is `feedBatches` -/
theorem feedSeq_batches (limit : Nat) (c : Conn) (s : MemStore) (bs : List Batch) :
    (feedSeq memOps limit c s (bs.map fun b => (b.now, b.bytes))).1 = (feedBatches limit c s bs).1 ∧
    (feedSeq memOps limit c s (bs.map fun b => (b.now, b.bytes))).2.1 = (feedBatches limit c s bs).2.1 := by
  induction bs generalizing c s with
  | nil => exact ⟨rfl, rfl⟩
  | cons b rest ih =>
    simp only [List.map_cons, feedSeq, feedBatches]
    exact ih _ _

/-- the arrivals of the scenario: the Set batch, the foreign batches, then the Get frame at `t` -/
def rywArrivals (t0 t : Nat) (k : Key) (v : Bytes) (f ttl : Nat) (hs : ReqHeader) (fset fget : Bytes) (mid : List Batch) :
    List (Nat × Bytes) :=
  ((⟨t0, [(fset, hs)], [.set hs f ttl k v]⟩ :: mid : List Batch).map fun b => (b.now, b.bytes)) ++ [(t, fget)]

/-- **C01 for eviction policy random with a limit that is not reached** (the property quantifies over both
    policies): a Set frame for `(k, v, f, ttl)` arrives; then any arrivals whose frames address other keys; then a Get
    frame for `k` before the deadline. If the policy evicted nothing (`bad = false` at the end) the bytes written back
    for the Get are the encoding of `v`, `f` and the CAS the Set was acknowledged with — exactly as without policy. -/
theorem C01_read_your_writes_under_policy (limit : Nat) (p : Policy) (t0 t : Nat) (k : Key) (v : Bytes) (f ttl : Nat)
    (hs hg : ReqHeader) (fset fget : Bytes) (mid : List Batch) (htape : p.tape = [])
    (hset : Batch.OK limit ⟨t0, [(fset, hs)], [.set hs f ttl k v]⟩) (hsop : isSetOp hs.opcode = true) (hcas : hs.cas = 0)
    (hmid : ∀ b ∈ mid, b.OK limit) (hfor : ∀ b ∈ mid, ∀ e ∈ b.ops, Foreign k e.2)
    (hget : Batch.OK limit ⟨t, [(fget, hg)], [.get hg k]⟩) (hgop : quietGetOp hg.opcode = false)
    (hlive : ttl = 0 ∨ t < t0 + ttl) :
    (feedSeq polOps limit Conn.init p (rywArrivals t0 t k v f ttl hs fset fget mid)).2.1.bad = false →
    (feedSeq polOps limit Conn.init p (rywArrivals t0 t k v f ttl hs fset fget mid)).2.2.getLast? =
      some (encode (Resp.get
        { opcode := hg.opcode, opaq := hg.opaq,
          bodyLen := v.length + 4 + (if getKeyOp hg.opcode then k else []).length,
          keyLen := (if getKeyOp hg.opcode then k else []).length, extrasLen := 4, cas := p.inner.casId }
        f (if getKeyOp hg.opcode then k else []) v)) := by
  intro hok
  obtain ⟨_, _, h3⟩ := C20_policy_transparent_stream limit Conn.init p _ htape hok
  rw [h3]
  have hall : ∀ b ∈ (⟨t0, [(fset, hs)], [.set hs f ttl k v]⟩ :: mid : List Batch), b.OK limit :=
    List.forall_mem_cons.mpr ⟨hset, hmid⟩
  simp only [rywArrivals, feedSeq_append, feedSeq]
  obtain ⟨hb1, hb2⟩ := feedSeq_batches limit Conn.init p.inner (⟨t0, [(fset, hs)], [.set hs f ttl k v]⟩ :: mid)
  rw [hb1, hb2, (C01_wire_history limit p.inner _ hall).1]
  rw [List.getLast?_concat]
  exact congrArg some
    (C01_wire_read_your_writes limit p.inner t0 t k v f ttl hs hg fset fget mid hset hsop hcas hmid hfor hget hgop hlive)

/-- the premises are met: a Set under a roomy limit evicts nothing; under a limit below the stored bytes the
    same request with a non-empty store is flagged (the hypothesis is not always true) -/
example : (Policy.init 100000).tape = [] ∧
    (handleRequest polOps (Policy.init 100000) 3 (.set ⟨0x80, 1, 1, 8, 0, 0, 10, 7, 0⟩ 5 0 [97] [120])).1.bad = false := by decide
example :
    let p1 := (handleRequest polOps (Policy.init 30) 3 (.set ⟨0x80, 1, 1, 8, 0, 0, 10, 7, 0⟩ 5 0 [97] [120])).1
    p1.bad = false ∧ (handleRequest polOps p1 3 (.set ⟨0x80, 1, 1, 8, 0, 0, 10, 7, 0⟩ 5 0 [98] [120])).1.bad = true := by decide

/-- the configured item size limit (below 2^32) and connection limit are the ones enforced — the connection
    limit as a *total*, with one semaphore, in every runtime -/
theorem C20_limits_enforced (c : Config) (h : c.itemLimit < 4294967296) :
    (effective c).itemLimit = c.itemLimit ∧ (effective c).totalConnLimit = c.connLimit ∧ (effective c).semaphores = 1 := by
  simp [effective, Nat.mod_eq_of_lt h]

/-- nothing a single connection can observe depends on runtime type, thread count or port -/
theorem C20_config_independent (c c' : Config)
    (h1 : c.itemLimit = c'.itemLimit) (h2 : c.connLimit = c'.connLimit) (h3 : c.evictionRandom = c'.evictionRandom) :
    effective c = effective c' := by
  simp [effective, h1, h2, h3]

example : effective ⟨true, 8, false, 11211, 1048576, 1024, 67108864⟩ = effective ⟨false, 1, false, 9999, 1048576, 1024, 67108864⟩ := by decide

end Memc

#print axioms Memc.C20_policy_transparent_set
#print axioms Memc.C20_policy_transparent_get
#print axioms Memc.C20_policy_transparent_delete
#print axioms Memc.C20_policy_transparent_flush
#print axioms Memc.C20_limits_enforced
#print axioms Memc.C20_config_independent
#print axioms Memc.C20_policy_transparent_request
#print axioms Memc.C20_policy_transparent_stream
#print axioms Memc.C20_limit_never_reached
#print axioms Memc.C20_room_means_ok
#print axioms Memc.feedSeq_append
#print axioms Memc.feedSeq_batches
#print axioms Memc.C01_read_your_writes_under_policy

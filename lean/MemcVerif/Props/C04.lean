import MemcVerif.Proofs.Alone
/-!
# C04 — read-modify-write commands (add / replace / append / prepend / incr / decr)

The full statement ("every concurrent history containing them is equivalent to a sequential one") is **false**
of the code and of the model: `MemcStore` implements each as `get` followed by an unrelated `set`. The
witnesses below are concrete two-thread schedules, kernel-evaluated; they are the recorded findings, one per
get→set window. What holds (`…_partial`): a command carrying the item's current CAS is guarded — if anything
mutated the item between its get and its set, the set is refused with 'key exists' and nothing is lost; and a
command whose calls run uninterrupted is exactly the sequential command.
-/
namespace Memc
open MemStore

def ctr (v : Nat) : Record := ⟨⟨0, 1, 0, 0⟩, toDec v⟩
def storeWith (r : Record) : MemStore := ⟨[([1], r)], 2⟩
def incr1 : CCmd := .delta [1] (Meta.new 0 0 0) 1 0 true

/-- two concurrent adds of an absent key are both acknowledged -/
theorem C04_add_add_both_succeed :
    let sys : Sys := ⟨MemStore.init, [{ todo := [.add [1] (Record.new [65] 0 0 0)] }, { todo := [.add [1] (Record.new [66] 0 0 0)] }]⟩
    (sys.run 0 [0, 1, 0, 1]).threads.map (·.results) = [[.stored 1], [.stored 2]] := by decide

/-- two concurrent increments by 1 of the counter 5 both return 6: one update is lost -/
theorem C04_incr_lost_update :
    let sys : Sys := ⟨storeWith (ctr 5), [{ todo := [incr1] }, { todo := [incr1] }]⟩
    (sys.run 0 [0, 0, 1, 1, 0, 1]).threads.map (·.results) = [[.counter 2 6], [.counter 3 6]] := by decide

/-- two concurrent appends: the first one's suffix is missing from the final value -/
theorem C04_append_lost :
    let sys : Sys := ⟨storeWith ⟨⟨0, 1, 0, 0⟩, [88]⟩, [{ todo := [.append [1] (Record.new [65] 0 0 0)] }, { todo := [.append [1] (Record.new [66] 0 0 0)] }]⟩
    ((sys.run 0 [0, 0, 1, 1, 0, 1]).store.mem.lookup [1]).map (·.value) = some [88, 66] := by decide

/-- a replace racing a delete resurrects the deleted item: the delete is acknowledged, then the item is back -/
theorem C04_replace_resurrects_deleted :
    let sys : Sys := ⟨storeWith ⟨⟨0, 1, 0, 0⟩, [88]⟩, [{ todo := [.replace [1] (Record.new [65] 0 0 0)] }, { todo := [.delete [1] 0] }]⟩
    (sys.run 0 [0, 0, 1, 0]).threads.map (·.results) = [[.stored 2], [.deleted]] ∧
    ((sys.run 0 [0, 0, 1, 0]).store.mem.lookup [1]).map (·.value) = some [65] := by decide

/-- **CAS-guarded commands lose nothing**: a replace / append / prepend / incr / decr that carries the CAS it
    read and finds, at its store call, an item whose CAS has moved on is refused with 'key exists' and the store
    is unchanged — for every state the other clients may have produced in between -/
theorem C04_cas_guarded_rmw_partial (s : MemStore) (now : Nat) (k : Key) (rec y nr : Record) (hd : Meta) (d i n : Nat) (inc : Bool)
    (hl : s.mem.lookup k = some y) (hmoved : y.header.cas ≠ rec.header.cas) (hc : rec.header.cas ≠ 0)
    (hnr : nr.header.cas = rec.header.cas) (hhd : hd.cas = rec.header.cas) (hp : parseU64 rec.value = some n) :
    afterGet s now (.replace k nr) (some rec) = (s, .err .keyExists) ∧
    afterGet s now (.append k nr) (some rec) = (s, .err .keyExists) ∧
    afterGet s now (.prepend k nr) (some rec) = (s, .err .keyExists) ∧
    afterGet s now (.delta k hd d i inc) (some rec) = (s, .err .keyExists) := by
  have hm : ∀ x : Record, x.header.cas = rec.header.cas → s.set now k x = (s, .error .keyExists) :=
    fun x hx => set_mismatch s now k x y (hx ▸ hc) hl (hx ▸ hmoved)
  refine ⟨?_, ?_, ?_, ?_⟩
  · dsimp only [afterGet]; rw [hm nr hnr]; rfl
  · dsimp only [afterGet]; rw [hm _ (by simp [hnr])]; rfl
  · dsimp only [afterGet]; rw [hm _ (by simp [hnr])]; rfl
  · dsimp only [afterGet]; simp only [hp]; rw [hm _ (by simp [hhd])]

/-- **uninterrupted = atomic**: a thread whose calls run back to back performs exactly the sequential
    command of `MemcStore` (the model the sequential theorems C05–C08 are about); shown here for `add` -/
theorem C04_contiguous_add (s : MemStore) (now : Nat) (k : Key) (r : Record) :
    let t : Thread := { todo := [.add k r] }
    let x1 := t.step s now
    let x2 := x1.2.step x1.1 now
    let x3 := x2.2.step x2.1 now
    x3.1 = (Cmd.add memOps s now k r).1 ∧
    x3.2.results = [resOfCas (Cmd.add memOps s now k r).2] := by
  intro t x1 x2 x3
  -- `rfl` proves this too, but only after the unifier has run the three steps on the concrete thread
  have h : x3 = Thread.runAlone 3 t s now := by simp only [Thread.runAlone, x3, x2, x1]
  rw [h, runAlone_getFirst s now (.add k r) nofun nofun nofun]
  dsimp only [CCmd.key, Cmd.add, memOps]
  rcases s.get now k with ⟨s', _ | _⟩ <;> exact ⟨rfl, rfl⟩

/-- **uninterrupted = atomic, for every command kind**: a client whose (at most three) `Cache` calls run back to
    back — no call of another client in between — performs exactly the one-at-a-time command of the sequential
    model (`applyOp`: the model the theorems of C01, C02, C05–C08 are about): same store, same answer, and it is
    finished. So every non-atomic behaviour of add/replace/append/prepend/incr/decr needs a foreign call inside
    the command's get→set window (the classes of the known findings), and the sequential theorems are theorems
    about the concurrent model whenever commands do not overlap. -/
theorem C04_uninterrupted_is_sequential (s : MemStore) (now : Nat) (c : CCmd) :
    (Thread.runAlone 3 { todo := [c] } s now).1 = (applyOp s now c.toOp).1 ∧
    (Thread.runAlone 3 { todo := [c] } s now).2.results.map CRes.toRes = [(applyOp s now c.toOp).2] ∧
    (Thread.runAlone 3 { todo := [c] } s now).2.finished = true := by
  rcases c.kinds with ⟨k, r, rfl⟩ | ⟨k, cas, rfl⟩ | ⟨ttl, rfl⟩ | ⟨h1, h2, h3⟩
  · rw [runAlone_single Thread.step_set]
    exact ⟨rfl, congrArg (· :: []) (resOfCas_toRes _), rfl⟩
  · rw [runAlone_single Thread.step_delete, CCmd.toOp, applyOp_delete]
    exact ⟨rfl, congrArg (· :: []) (delRes_toRes _), rfl⟩
  · rw [runAlone_single Thread.step_flush]
    exact ⟨rfl, rfl, rfl⟩
  · rw [runAlone_getFirst s now c h1 h2 h3]
    obtain ⟨e1, e2⟩ := afterGet_seq s now c h1 h2 h3
    exact ⟨e1, congrArg (· :: []) e2, rfl⟩

/-- non-vacuity: an incr on a stored counter run alone is the sequential incr -/
example : (Thread.runAlone 3 { todo := [incr1] } (storeWith (ctr 7)) 0).2.results = [.counter 2 8] := by decide

end Memc

#print axioms Memc.C04_add_add_both_succeed
#print axioms Memc.C04_incr_lost_update
#print axioms Memc.C04_append_lost
#print axioms Memc.C04_replace_resurrects_deleted
#print axioms Memc.C04_cas_guarded_rmw_partial
#print axioms Memc.C04_contiguous_add
#print axioms Memc.C04_uninterrupted_is_sequential

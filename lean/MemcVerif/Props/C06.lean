import MemcVerif.Proofs.Ops
import MemcVerif.Proofs.Policy
/-!
# C06 — add / replace / append / prepend

For every store state, clock reading, key and operand: presence is *visibility* (`vis`): an expired
record counts as absent (it is collected by the command's own `get`).
-/
namespace Memc
open MemStore

/-- add on a present key: 'key exists', and the store is unchanged field by field -/
theorem C06_add_present (s : MemStore) (now : Nat) (k : Key) (r x : Record) (h : s.vis now k = some x) :
    applyOp s now (.add k r) = (s, .err .keyExists) := by
  simp [applyOp, Cmd.add, memOps, get_vis_some h, Res.ofCas]

/-- add on an absent (never stored, deleted, flushed or expired) key stores exactly the operand -/
theorem C06_add_absent (s : MemStore) (now : Nat) (k : Key) (v : Bytes) (f ttl : Nat) (h : s.vis now k = none) :
    (applyOp s now (.add k (Record.new v 0 f ttl))).2 = .stored s.casId ∧
    (applyOp s now (.add k (Record.new v 0 f ttl))).1.mem.lookup k = some ⟨⟨now, s.casId, f, ttl⟩, v⟩ := by
  simp only [applyOp, Cmd.add, memOps, get_vis_none h]
  rw [set_cas0 _ _ _ _ rfl]
  exact ⟨rfl, Mem.lookup_insert_self ..⟩

/-- replace on an absent key: 'not found', nothing stored -/
theorem C06_replace_absent (s : MemStore) (now : Nat) (k : Key) (r : Record) (h : s.vis now k = none) :
    (applyOp s now (.replace k r)).2 = .err .notFound ∧
    (applyOp s now (.replace k r)).1.mem.lookup k = none := by
  simp only [applyOp, Cmd.replace, memOps, get_vis_none h]
  exact ⟨rfl, Mem.lookup_erase_self ..⟩

/-- replace on a present key (no CAS) stores exactly the operand -/
theorem C06_replace_present (s : MemStore) (now : Nat) (k : Key) (v : Bytes) (f ttl : Nat) (x : Record)
    (h : s.vis now k = some x) :
    (applyOp s now (.replace k (Record.new v 0 f ttl))).2 = .stored s.casId ∧
    (applyOp s now (.replace k (Record.new v 0 f ttl))).1.mem.lookup k = some ⟨⟨now, s.casId, f, ttl⟩, v⟩ := by
  simp only [applyOp, Cmd.replace, memOps, get_vis_some h]
  rw [set_cas0 _ _ _ _ rfl]
  exact ⟨rfl, Mem.lookup_insert_self ..⟩

/-- append on a present key: value' = old ++ suffix, flags and TTL kept, new CAS acknowledged;
    `cas` is 0 or the item's current CAS -/
theorem C06_append_value (s : MemStore) (now : Nat) (k : Key) (suffix : Bytes) (cas : Nat) (x : Record)
    (h : s.vis now k = some x) (hc : cas = 0 ∨ cas = x.header.cas) :
    (applyOp s now (.append k (Record.new suffix cas 0 0))).2 = .stored s.casId ∧
    (applyOp s now (.append k (Record.new suffix cas 0 0))).1.mem.lookup k
      = some ⟨⟨now, s.casId, x.header.flags, x.header.ttl⟩, x.value ++ suffix⟩ := by
  simp only [applyOp, Cmd.append, memOps, get_vis_some h]
  rw [set_current s now k _ x (vis_lookup h) hc]
  exact ⟨rfl, Mem.lookup_insert_self ..⟩

/-- prepend on a present key: value' = prefix ++ old, flags and TTL kept -/
theorem C06_prepend_value (s : MemStore) (now : Nat) (k : Key) (pre : Bytes) (cas : Nat) (x : Record)
    (h : s.vis now k = some x) (hc : cas = 0 ∨ cas = x.header.cas) :
    (applyOp s now (.prepend k (Record.new pre cas 0 0))).2 = .stored s.casId ∧
    (applyOp s now (.prepend k (Record.new pre cas 0 0))).1.mem.lookup k
      = some ⟨⟨now, s.casId, x.header.flags, x.header.ttl⟩, pre ++ x.value⟩ := by
  simp only [applyOp, Cmd.prepend, memOps, get_vis_some h]
  rw [set_current s now k _ x (vis_lookup h) hc]
  exact ⟨rfl, Mem.lookup_insert_self ..⟩

/-- append / prepend on an absent key fail and store nothing -/
theorem C06_concat_absent (s : MemStore) (now : Nat) (k : Key) (r : Record) (h : s.vis now k = none) :
    (applyOp s now (.append k r)).2 = .err .notFound ∧ (applyOp s now (.append k r)).1.mem.lookup k = none ∧
    (applyOp s now (.prepend k r)).2 = .err .notFound ∧ (applyOp s now (.prepend k r)).1.mem.lookup k = none := by
  simp only [applyOp, Cmd.append, Cmd.prepend, memOps, get_vis_none h]
  exact ⟨rfl, Mem.lookup_erase_self .., rfl, Mem.lookup_erase_self ..⟩

/-- a rejected add / replace / append / prepend addressed to a present item leaves the whole store
    unchanged (value, flags, CAS, TTL, timestamp of every key) -/
theorem C06_rejected_unchanged (s : MemStore) (now : Nat) (k : Key) (r x : Record) (e : CacheError)
    (h : s.vis now k = some x) :
    ((applyOp s now (.add k r)).2 = .err e → (applyOp s now (.add k r)).1 = s) ∧
    ((applyOp s now (.replace k r)).2 = .err e → (applyOp s now (.replace k r)).1 = s) ∧
    ((applyOp s now (.append k r)).2 = .err e → (applyOp s now (.append k r)).1 = s) ∧
    ((applyOp s now (.prepend k r)).2 = .err e → (applyOp s now (.prepend k r)).1 = s) := by
  simp only [applyOp, Cmd.add, Cmd.replace, Cmd.append, Cmd.prepend, memOps, get_vis_some h]
  have hset : ∀ y : Record, Res.ofCas (s.set now k y).2 = .err e → (s.set now k y).1 = s :=
    fun y hy => by rw [set_of_error (Res.ofCas_eq_err.mp hy)]
  exact ⟨fun _ => trivial, hset _, hset _, hset _⟩

/-- a rejected command addressed to an absent key stores nothing and changes no visible item -/
theorem C06_rejected_absent_invisible (s : MemStore) (now : Nat) (k k' : Key) (r : Record) :
    ((applyOp s now (.replace k r)).2 = .err .notFound →
      (applyOp s now (.replace k r)).1.vis now k' = s.vis now k') := by
  intro hres
  cases hv : s.vis now k with
  | some x =>
    simp only [applyOp, Cmd.replace, memOps, get_vis_some hv] at hres
    exact absurd hres (set_ne_notFound _ _ _ _)
  | none =>
    simp only [applyOp, Cmd.replace, memOps, get_vis_none hv]
    exact vis_erase_of_vis_none hv k'

/-- the same for append and prepend: a 'not found' answer means nothing was stored and no visible item changed -/
theorem C06_rejected_absent_invisible_concat (s : MemStore) (now : Nat) (k k' : Key) (r : Record) :
    ((applyOp s now (.append k r)).2 = .err .notFound →
      (applyOp s now (.append k r)).1.vis now k' = s.vis now k') ∧
    ((applyOp s now (.prepend k r)).2 = .err .notFound →
      (applyOp s now (.prepend k r)).1.vis now k' = s.vis now k') := by
  cases hv : s.vis now k with
  | some x =>
    simp only [applyOp, Cmd.append, Cmd.prepend, memOps, get_vis_some hv]
    exact ⟨fun hres => absurd hres (set_ne_notFound _ _ _ _), fun hres => absurd hres (set_ne_notFound _ _ _ _)⟩
  | none =>
    simp only [applyOp, Cmd.append, Cmd.prepend, memOps, get_vis_none hv]
    exact ⟨fun _ => vis_erase_of_vis_none hv k', fun _ => vis_erase_of_vis_none hv k'⟩

/-! ## Behind the eviction policy

The conditional stores do not depend on memory: whatever the limit, the accounted usage and the victims the request's
own eviction takes, the refusals are the same and store nothing, and an accepted append / prepend leaves old ++ suffix
(prefix ++ old) with the item's flags — even when the request's own eviction removes the item between its read and its
write. -/

/-- add on a present key behind the policy: 'key exists', nothing changes (neither store nor accounting) -/
theorem C06_add_present_under_policy (p : Policy) (now : Nat) (k : Key) (r x : Record) (h : p.inner.vis now k = some x) :
    Cmd.add polOps p now k r = (p, .error .keyExists) := by
  simp [Cmd.add, polOps, Policy.get, get_vis_some h]

/-- replace / append / prepend on an absent key behind the policy: 'not found', the accounting is not charged and the key
    stays absent -/
theorem C06_absent_under_policy (p : Policy) (now : Nat) (k : Key) (r : Record) (h : p.inner.vis now k = none) :
    ((Cmd.replace polOps p now k r).2 = .error .notFound ∧ (Cmd.replace polOps p now k r).1.usage = p.usage ∧
      (Cmd.replace polOps p now k r).1.inner.mem.lookup k = none) ∧
    ((Cmd.append polOps p now k r).2 = .error .notFound ∧ (Cmd.append polOps p now k r).1.usage = p.usage ∧
      (Cmd.append polOps p now k r).1.inner.mem.lookup k = none) ∧
    ((Cmd.prepend polOps p now k r).2 = .error .notFound ∧ (Cmd.prepend polOps p now k r).1.usage = p.usage ∧
      (Cmd.prepend polOps p now k r).1.inner.mem.lookup k = none) := by
  simp only [Cmd.replace, Cmd.append, Cmd.prepend, polOps, Policy.get, get_vis_none h]
  exact ⟨⟨trivial, trivial, Mem.lookup_erase_self ..⟩, ⟨trivial, trivial, Mem.lookup_erase_self ..⟩, ⟨trivial, trivial, Mem.lookup_erase_self ..⟩⟩

/-- add on an absent key behind the policy stores exactly the operand, under any limit -/
theorem C06_add_absent_under_policy (p : Policy) (now : Nat) (k : Key) (v : Bytes) (f ttl : Nat)
    (h : p.inner.vis now k = none) :
    (Cmd.add polOps p now k (Record.new v 0 f ttl)).2 = .ok p.inner.casId ∧
    (Cmd.add polOps p now k (Record.new v 0 f ttl)).1.inner.mem.lookup k = some ⟨⟨now, p.inner.casId, f, ttl⟩, v⟩ := by
  simp only [Cmd.add, polOps, Policy.get, get_vis_none h]
  exact policy_set_cas0 _ now k _ rfl

/-- append / prepend (no CAS) on a present key behind the policy: old ++ suffix resp. prefix ++ old with the item's flags
    and TTL, under any limit and for every choice of victims -/
theorem C06_concat_under_policy (p : Policy) (now : Nat) (k : Key) (operand : Bytes) (x : Record)
    (h : p.inner.vis now k = some x) :
    ((Cmd.append polOps p now k (Record.new operand 0 0 0)).2 = .ok p.inner.casId ∧
     (Cmd.append polOps p now k (Record.new operand 0 0 0)).1.inner.mem.lookup k
       = some ⟨⟨now, p.inner.casId, x.header.flags, x.header.ttl⟩, x.value ++ operand⟩) ∧
    ((Cmd.prepend polOps p now k (Record.new operand 0 0 0)).2 = .ok p.inner.casId ∧
     (Cmd.prepend polOps p now k (Record.new operand 0 0 0)).1.inner.mem.lookup k
       = some ⟨⟨now, p.inner.casId, x.header.flags, x.header.ttl⟩, operand ++ x.value⟩) := by
  simp only [Cmd.append, Cmd.prepend, polOps, Policy.get, get_vis_some h]
  exact ⟨policy_set_cas0 _ now k _ rfl, policy_set_cas0 _ now k _ rfl⟩

/-- the hypotheses are satisfiable: a store holding a live item -/
example : (⟨[([1], ⟨⟨0, 1, 7, 0⟩, [65]⟩)], 2⟩ : MemStore).vis 5 [1] = some ⟨⟨0, 1, 7, 0⟩, [65]⟩ := by decide

end Memc

#print axioms Memc.C06_add_present
#print axioms Memc.C06_add_absent
#print axioms Memc.C06_replace_absent
#print axioms Memc.C06_replace_present
#print axioms Memc.C06_append_value
#print axioms Memc.C06_prepend_value
#print axioms Memc.C06_concat_absent
#print axioms Memc.C06_rejected_unchanged
#print axioms Memc.C06_rejected_absent_invisible
#print axioms Memc.C06_rejected_absent_invisible_concat
#print axioms Memc.C06_add_present_under_policy
#print axioms Memc.C06_absent_under_policy
#print axioms Memc.C06_add_absent_under_policy
#print axioms Memc.C06_concat_under_policy

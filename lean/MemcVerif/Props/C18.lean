import MemcVerif.Proofs.Loop
import MemcVerif.Proofs.Frames
import MemcVerif.Proofs.Timed
/-!
# C18 — faults on one connection are contained

A faulty stream = complete, acceptable frames followed by a tail that is either cut short (the client
closed, or fell silent, in the middle of a request) or starts with an invalid header. In any segmentation
(C09) the requests executed are exactly the complete frames, each once and in order; the tail executes
nothing. The store other connections see is the fold of exactly those requests.
Abortive resets are outside the model (kernel delivery): the claim there is "a prefix, each at most once",
observed by the harness.
-/
namespace Memc

variable {σ : Type} (C : CacheOps σ)

/-- a strict prefix of a frame with a valid header decodes to no event at all: the request is not executed -/
theorem C18_truncated_no_event (limit : Nat) (fb : Bytes) (h : ReqHeader) (hf : IsFrame fb h)
    (hv : headerValid h = true) (n : Nat) (hn : n < fb.length) : (drain limit .idle (fb.take n)).1 = [] := by
  have hlen : (fb.take n).length < HEADER_LEN + h.bodyLen := by
    rw [List.length_take_of_le (Nat.le_of_lt hn), ← hf.len]; exact hn
  rw [drain_eq]
  by_cases h24 : (fb.take n).length < HEADER_LEN
  · rw [(Decode1.short h24).eq]
  · have h24 := Nat.le_of_not_lt h24
    have hph : parseHeader (fb.take n) = h := by
      rw [← parseHeader_append (fb.drop n) h24, List.take_append_drop, hf.hdr]
    subst hph
    have hb : ((fb.take n).drop HEADER_LEN).length < (parseHeader (fb.take n)).bodyLen := by
      rw [List.length_drop]; exact Nat.sub_lt_left_of_lt_add h24 hlen
    -- the header is there and valid, the body is not: the turn waits, for the body or for the end of the discard
    by_cases hbig : limit < (parseHeader (fb.take n)).bodyLen
    · rw [(Decode1.header h24 hv (.oversize hbig (.skipMore hb))).eq]
    · rw [(Decode1.header h24 hv (.wait (Nat.le_of_not_lt hbig) hb)).eq]

/-- a tail that starts with an invalid header yields one protocol error and nothing else -/
theorem C18_bad_header_no_request (limit : Nat) (tail : Bytes) (hlen : HEADER_LEN ≤ tail.length)
    (hv : headerValid (parseHeader tail) = false) : (drain limit .idle tail).1 = [.protoErr] := by
  rw [drain_eq, (Decode1.badHeader hlen hv).eq]
  simp only [drain_dead]

/-- **exactly the complete requests, each once, in order**: for a pipeline of complete acceptable frames
    followed by any tail, the decoder hands over exactly the frames' events followed by whatever the tail decodes to -/
theorem C18_prefix_exact (limit : Nat) (frames : List (Bytes × ReqHeader)) (tail : Bytes)
    (hall : ∀ f ∈ frames, IsFrame f.1 f.2 ∧ frameOK limit f.1 f.2 = true) :
    (drain limit .idle ((frames.map (·.1)).flatten ++ tail)).1 =
      frames.map (fun f => frameEv limit f.1 f.2) ++ (drain limit .idle tail).1 := by
  rw [drain_frames limit frames tail hall]

/-- cut short in the middle of a request: exactly the complete ones are executed -/
theorem C18_cut_mid_request (limit : Nat) (frames : List (Bytes × ReqHeader)) (fb : Bytes) (h : ReqHeader) (n : Nat)
    (hall : ∀ f ∈ frames, IsFrame f.1 f.2 ∧ frameOK limit f.1 f.2 = true)
    (hf : IsFrame fb h) (hv : headerValid h = true) (hn : n < fb.length) :
    (drain limit .idle ((frames.map (·.1)).flatten ++ fb.take n)).1 = frames.map (fun f => frameEv limit f.1 f.2) := by
  rw [C18_prefix_exact limit frames _ hall, C18_truncated_no_event limit fb h hf hv n hn, List.append_nil]

/-- the peer closing (EOF) executes nothing further and never changes the store; the connection ends -/
theorem C18_eof_contained (now : Nat) (c : Conn) (s : σ) :
    (eof C now c s).2.1 = s ∧ ((eof C now c s).1.closed = true) := by
  unfold eof
  cases hc : c.closed with
  | true => exact ⟨rfl, hc⟩
  | false => cases c.pst <;> exact ⟨rfl, rfl⟩

/-- a protocol error executes nothing and ends only this connection's loop -/
theorem C18_protoErr_contained (now : Nat) (s : σ) (es : List Ev) :
    execEvs C now s (.protoErr :: es) = (s, [], true) :=
  rfl

/-- **other connections see exactly what the completed requests imply**: after feeding the faulty stream in
    one piece (any segmentation gives the same by C09), the store is the fold of the complete frames' events -/
theorem C18_store_is_fold_of_complete (limit now : Nat) (s : σ) (frames : List (Bytes × ReqHeader)) (fb : Bytes)
    (h : ReqHeader) (n : Nat)
    (hall : ∀ f ∈ frames, IsFrame f.1 f.2 ∧ frameOK limit f.1 f.2 = true)
    (hf : IsFrame fb h) (hv : headerValid h = true) (hn : n < fb.length) :
    (feed C limit now Conn.init s ((frames.map (·.1)).flatten ++ fb.take n)).2.1 =
      (execEvs C now s (frames.map (fun f => frameEv limit f.1 f.2))).1 := by
  rw [feed_init]
  dsimp only
  rw [C18_cut_mid_request limit frames fb h n hall hf hv hn]

/-- **a connection that timed out is over, whatever it was doing**: after the receive timeout — also in the middle of a request,
    also while an oversized body was being discarded — nothing that arrives later is executed or answered, and the store is
    untouched by the timeout itself. (The bytes that complete a stalled oversized body, or that follow it, are never parsed
    as requests: the discard is not resumed and not restarted.) -/
theorem C18_timeout_contained {σ : Type} (C : CacheOps σ) (limit now : Nat) (c : Conn) (s : σ) (later : Bytes) :
    feed C limit now (idleTimeout c) s later = (idleTimeout c, s, []) ∧
    eof C now (idleTimeout c) s = (idleTimeout c, s, []) := by
  have hc : (idleTimeout c).closed = true := by
    unfold idleTimeout
    split
    · assumption
    · rfl
  exact ⟨feed_closed C hc later, by rw [eof, if_pos hc]⟩

/-! ## The receive timeout itself (`Model/Timed`)

Only silence ends a connection: the timer is restarted by every request that becomes complete, answered or not. -/

/-- one arrival before the deadline: exactly what the untimed connection does; the timer is restarted iff a request completed -/
theorem tfeed_alive {σ : Type} (C : CacheOps σ) (limit rx now t : Nat) (tc : TConn) (s : σ) (chunk : Bytes) (ht : t < tc.deadline) :
    (tfeed C limit rx now t tc s chunk).1.conn = (feed C limit now tc.conn s chunk).1 ∧
    (tfeed C limit rx now t tc s chunk).2 = (feed C limit now tc.conn s chunk).2 := by
  cases hc : tc.conn.closed with
  | true => rw [tfeed_closed C hc, feed_closed C hc]; exact ⟨rfl, rfl⟩
  | false => rw [tfeed_in_time C hc ht]; exact ⟨rfl, rfl⟩

/-- what restarts the timer: an in-time arrival moves the deadline to `t + rx` exactly when at least one request became
    complete — whether or not anything was written for it (a quiet store, a missing quiet get) — and leaves it where it was
    when the bytes completed nothing -/
theorem tfeed_deadline {σ : Type} (C : CacheOps σ) (limit rx now t : Nat) (tc : TConn) (s : σ) (chunk : Bytes)
    (hc : tc.conn.closed = false) (ht : t < tc.deadline) :
    (tfeed C limit rx now t tc s chunk).1.deadline =
      if (drain limit tc.conn.pst (tc.conn.buf ++ chunk)).1.length = 0 then tc.deadline else t + rx := by
  rw [tfeed_in_time C hc ht]

/-- one arrival at or after the deadline: the connection has been dropped, the bytes are never read — not executed, not
    answered, the store untouched -/
theorem tfeed_timed_out {σ : Type} (C : CacheOps σ) (limit rx now t : Nat) (tc : TConn) (s : σ) (chunk : Bytes)
    (hc : tc.conn.closed = false) (ht : tc.deadline ≤ t) :
    tfeed C limit rx now t tc s chunk = (⟨Conn.dead, tc.deadline⟩, s, []) := by
  rw [tfeed, if_neg (Bool.eq_false_iff.1 hc), if_pos ht, idleTimeout, if_neg (Bool.eq_false_iff.1 hc)]

/-- **an active client is never timed out**, however long it stays and whether or not any of its commands is answered: over
    any number of arrivals, each before the pending deadline and each completing at least one request, the connection, the
    store and the bytes written are those of the connection without a timeout -/
theorem C18_active_client_not_timed_out {σ : Type} (C : CacheOps σ) (limit rx : Nat) (d : Nat) (c : Conn) (s : σ)
    (as : List (Nat × Nat × Bytes)) (h : Active C limit rx d c s as) :
    (tfeedSeq C limit rx ⟨c, d⟩ s as).1.conn = (ufeedSeq C limit c s as).1 ∧
    (tfeedSeq C limit rx ⟨c, d⟩ s as).2 = (ufeedSeq C limit c s as).2 := by
  induction as generalizing d c s with
  | nil => exact ⟨rfl, rfl⟩
  | cons a rest ih =>
    obtain ⟨hc, ht, hn, hrest⟩ := h
    -- the timed state after this arrival: same connection, deadline restarted
    rw [tfeedSeq, ufeedSeq, tfeed_in_time C hc ht, if_neg (Nat.ne_of_gt hn)]
    have ih' := ih _ _ _ hrest
    exact ⟨ih'.1, by rw [ih'.2]⟩

/-- **silence past the deadline ends the connection for good**: the first arrival at or after the pending deadline finds
    the connection dropped — neither it nor anything after it is read, executed or answered, and the store stays what it
    was; the outcome of the whole rest of the history is fixed at that moment -/
theorem C18_silent_client_dropped {σ : Type} (C : CacheOps σ) (limit rx now t : Nat) (tc : TConn) (s : σ) (chunk : Bytes)
    (later : List (Nat × Nat × Bytes)) (hc : tc.conn.closed = false) (ht : tc.deadline ≤ t) :
    (tfeedSeq C limit rx tc s ((t, now, chunk) :: later)).1.conn = Conn.dead ∧
    (tfeedSeq C limit rx tc s ((t, now, chunk) :: later)).2.1 = s ∧
    ∀ b ∈ (tfeedSeq C limit rx tc s ((t, now, chunk) :: later)).2.2, b = [] := by
  rw [tfeedSeq, tfeed_timed_out C limit rx now t tc s chunk hc ht, tfeedSeq_closed C rfl]
  exact ⟨rfl, rfl, List.forall_mem_cons.2 ⟨rfl, fun _ => List.eq_of_mem_replicate⟩⟩

/-- whole acceptable requests make progress: a batch that starts with a complete frame on an idle connection with nothing
    buffered completes at least one request -/
theorem progress_of_frame (limit : Nat) {fb : Bytes} {h : ReqHeader} (hf : IsFrame fb h) (rest : Bytes)
    (hok : frameOK limit fb h = true) : 0 < (drain limit .idle ([] ++ (fb ++ rest))).1.length := by
  rw [List.nil_append, drain_frame limit hf rest hok]
  exact Nat.succ_pos _

/-- the premises of `C18_active_client_not_timed_out` are satisfiable: one quiet-set frame arriving at instant 1500 on a fresh
    connection opened at instant 0 under a timeout of 2000 -/
example {σ : Type} (C : CacheOps σ) (s : σ) (fb : Bytes) (h : ReqHeader) (hf : IsFrame fb h) (hok : frameOK 1024 fb h = true) :
    Active C 1024 2000 (TConn.start 0 2000).deadline Conn.init s [(1500, 7, fb)] := by
  refine ⟨rfl, by simp [TConn.start], ?_, trivial⟩
  have := progress_of_frame 1024 hf [] hok
  simpa [Conn.init] using this

end Memc

#print axioms Memc.C18_truncated_no_event
#print axioms Memc.C18_bad_header_no_request
#print axioms Memc.C18_prefix_exact
#print axioms Memc.C18_cut_mid_request
#print axioms Memc.C18_eof_contained
#print axioms Memc.C18_protoErr_contained
#print axioms Memc.C18_store_is_fold_of_complete
#print axioms Memc.C18_timeout_contained
#print axioms Memc.tfeed_alive
#print axioms Memc.tfeed_timed_out
#print axioms Memc.C18_active_client_not_timed_out
#print axioms Memc.progress_of_frame
#print axioms Memc.tfeedSeq_closed
#print axioms Memc.C18_silent_client_dropped
#print axioms Memc.tfeed_deadline

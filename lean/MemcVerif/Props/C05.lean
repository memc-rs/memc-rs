import MemcVerif.Props.C06
/-!
# C05 — expiry: items live for their TTL and never longer

Deadline of a record = timestamp of its last successful mutation + TTL (none for TTL 0).
Quantifiers: every store, key, clock reading, command of every kind and history of any length.
-/
namespace Memc
open MemStore

theorem C05_ttl0_immortal (r : Record) (h : r.header.ttl = 0) (t : Nat) : r.expired t = false :=
  (Record.expired_eq_false_iff t r).mpr (.inl h)

/-- a record stamped at `t0` with TTL `ttl > 0` is live exactly before `t0 + ttl` -/
theorem C05_deadline (r : Record) (c t0 t : Nat) (httl : r.header.ttl ≠ 0) :
    (stamp r c t0).expired t = true ↔ t0 + r.header.ttl ≤ t := by
  rw [Record.expired_iff]; simp [stamp, httl]

/-- live before the deadline: retrieval returns the item -/
theorem C05_live_before_deadline (s : MemStore) (now : Nat) (k : Key) (x : Record)
    (hl : s.mem.lookup k = some x) (h : x.header.ttl = 0 ∨ now < x.header.timestamp + x.header.ttl) :
    (s.get now k).2 = .ok x := by
  rw [get_live hl ((Record.expired_eq_false_iff now x).mpr h)]

/-- dead from the deadline on: retrieval answers 'not found' (and collects the record) -/
theorem C05_dead_from_deadline (s : MemStore) (now : Nat) (k : Key) (x : Record)
    (hl : s.mem.lookup k = some x) (h0 : x.header.ttl ≠ 0) (h : x.header.timestamp + x.header.ttl ≤ now) :
    (s.get now k).2 = .error .notFound ∧ (s.get now k).1.mem.lookup k = none := by
  rw [get_vis_none (vis_none_of_expired hl ((Record.expired_iff now x).mpr ⟨h0, h⟩))]
  exact ⟨rfl, Mem.lookup_erase_self ..⟩

/-- an expired record is invisible: every presence-dependent command (get, add, replace, append, prepend,
    incr, decr) starts from `vis`, so C06_add_absent, C06_replace_absent, C06_concat_absent, C07_create and
    C07_no_create (all stated for `vis = none`) apply to it -/
theorem C05_expired_is_absent (s : MemStore) (now : Nat) (k : Key) (x : Record)
    (hl : s.mem.lookup k = some x) (he : x.expired now = true) : s.vis now k = none := vis_none_of_expired hl he

theorem C05_expired_absent_for_add (s : MemStore) (now : Nat) (k : Key) (x : Record) (v : Bytes) (f ttl : Nat)
    (hl : s.mem.lookup k = some x) (he : x.expired now = true) :
    (applyOp s now (.add k (Record.new v 0 f ttl))).2 = .stored s.casId :=
  (C06_add_absent s now k v f ttl (vis_none_of_expired hl he)).1

theorem C05_expired_absent_for_rmw (s : MemStore) (now : Nat) (k : Key) (x r : Record)
    (hl : s.mem.lookup k = some x) (he : x.expired now = true) :
    (applyOp s now (.replace k r)).2 = .err .notFound ∧ (applyOp s now (.append k r)).2 = .err .notFound ∧
    (applyOp s now (.prepend k r)).2 = .err .notFound :=
  have hv := vis_none_of_expired hl he
  ⟨(C06_replace_absent s now k r hv).1, (C06_concat_absent s now k r hv).1, (C06_concat_absent s now k r hv).2.2.1⟩

/-- **nothing prolongs a life**: after any command, the record of `k` is either one this very command
    wrote as a store addressed to `k` (stamped `now`), or it expires no later than the record before -/
theorem C05_nothing_prolongs (s : MemStore) (now : Nat) (op : Op) (k : Key) (x r' : Record)
    (hl : s.mem.lookup k = some x) (hl' : (applyOp s now op).1.mem.lookup k = some r') :
    (op.key = some k ∧ op.stores = true ∧ r'.header.timestamp = now)
      ∨ (∀ t', x.expired t' = true → r'.expired t' = true) := by
  rcases step_alt s now op k x hl with h1 | ⟨r2, h1, hs⟩ | ⟨r2, h1, _, _, hts, hkey, hst⟩ | ⟨r2, h1, _, _, hkey, hts, hst⟩
  · cases h1.symm.trans hl'
  · cases h1.symm.trans hl'
    right
    rcases hs with rfl | ⟨t, ht, rfl⟩
    · exact fun _ h => h
    · exact fun t' h => (flushRecord_expired now t t' x ht).mpr (.inl h)
  · cases h1.symm.trans hl'; exact .inl ⟨hkey, hst, hts⟩
  · cases h1.symm.trans hl'; exact .inl ⟨hkey, hst, hts⟩

/-- a key that is physically absent stays absent unless a storing command is addressed to it -/
theorem absent_stays_absent (s : MemStore) (now : Nat) (op : Op) (k : Key)
    (hl : s.mem.lookup k = none) (hno : ¬ (op.key = some k ∧ op.stores = true)) :
    (applyOp s now op).1.mem.lookup k = none := by
  by_cases hk : op.key = some k
  · rcases applyOp_keyed s now hk with h | ⟨r, _, hst, _⟩ | ⟨r, rfl⟩ | ⟨c, rfl⟩
    · rw [h, collect_lookup_self, vis_def, hl]
    · exact absurd ⟨hk, hst⟩ hno
    · exact absurd ⟨hk, rfl⟩ hno
    · rw [applyOp_delete, delete_absent s k c hl]; exact hl
  · rcases applyOp_other s now op k hk with ⟨t, rfl⟩ | h
    · simp [applyOp, flush_lookup, hl]
    · rw [h, hl]

/-- one step: an invisible key stays invisible at the time of the command unless a storing command
    is addressed to it -/
theorem invisible_step (s : MemStore) (now : Nat) (op : Op) (k : Key) (hv : s.vis now k = none)
    (hno : ¬ (op.key = some k ∧ op.stores = true)) : (applyOp s now op).1.vis now k = none := by
  rw [vis_eq_none_iff]
  intro r' hl'
  cases hl : s.mem.lookup k with
  | none => rw [absent_stays_absent s now op k hl hno] at hl'; cases hl'
  | some x =>
    rcases C05_nothing_prolongs s now op k x r' hl hl' with ⟨hkey, hst, _⟩ | hmonoexp
    · exact absurd ⟨hkey, hst⟩ hno
    · exact hmonoexp now (vis_eq_none_iff.mp hv x hl)

/-- **once expired (or deleted, or flushed), never visible again**: over any history with a monotone clock
    that contains no storing command addressed to `k`, an invisible `k` stays invisible at every later
    time — delayed flushes included -/
theorem C05_never_visible_again (k : Key) (h : History) :
    ∀ (s : MemStore) (t : Nat), s.vis t k = none →
      (∀ e ∈ h, ¬ (e.2.key = some k ∧ e.2.stores = true)) → (List.Pairwise (· ≤ ·) (t :: h.map (·.1))) →
      ∀ t', (∀ e ∈ h, e.1 ≤ t') → t ≤ t' → (runOps s h).vis t' k = none := by
  induction h with
  | nil => intro s t hv _ _ t' _ htt; exact vis_none_mono hv htt
  | cons e rest ih =>
    obtain ⟨now, op⟩ := e
    intro s t hv hnm hmono t' hle htt
    obtain ⟨hnow, hmono'⟩ := List.pairwise_cons.mp hmono
    exact ih (applyOp s now op).1 now
      (invisible_step s now op k (vis_none_mono hv (hnow now (List.mem_cons_self ..))) (hnm (now, op) (List.mem_cons_self ..)))
      (fun e he => hnm e (List.mem_cons_of_mem _ he)) hmono' t'
      (fun e he => hle e (List.mem_cons_of_mem _ he)) (hle (now, op) (List.mem_cons_self ..))

/-! ## Behind the eviction policy

The policy adds nothing to a lifetime: an item stored through it is stamped with the clock of the store, and is returned
exactly until `now + ttl`, whatever the limit, the usage and the victims of the store's own eviction. -/

/-- a store (no CAS) behind the policy at `now`: the item is returned at every `t` before `now + ttl` (at every `t` when
    the TTL is 0) and is 'not found' from `now + ttl` on -/
theorem C05_store_under_policy_deadline (p : Policy) (now t : Nat) (k : Key) (r : Record) (h : r.header.cas = 0) :
    ((r.header.ttl = 0 ∨ t < now + r.header.ttl) →
      ((p.set now k r).1.get t k).2 = .ok (stamp r p.inner.casId now)) ∧
    (r.header.ttl ≠ 0 → now + r.header.ttl ≤ t →
      ((p.set now k r).1.get t k).2 = .error .notFound ∧ ((p.set now k r).1.get t k).1.inner.mem.lookup k = none) := by
  obtain ⟨_, hl⟩ := policy_set_cas0 p now k r h
  dsimp only [Policy.get]
  exact ⟨C05_live_before_deadline _ t k _ hl, C05_dead_from_deadline _ t k _ hl⟩

/-- non-vacuity: an expired record and a history with a delayed flush, gets, a delete and foreign stores -/
example : (⟨[([1], ⟨⟨0, 1, 0, 5⟩, [65]⟩)], 2⟩ : MemStore).vis 5 [1] = none := by decide

end Memc

#print axioms Memc.C05_ttl0_immortal
#print axioms Memc.C05_deadline
#print axioms Memc.C05_live_before_deadline
#print axioms Memc.C05_dead_from_deadline
#print axioms Memc.C05_expired_is_absent
#print axioms Memc.C05_expired_absent_for_add
#print axioms Memc.C05_expired_absent_for_rmw
#print axioms Memc.C05_nothing_prolongs
#print axioms Memc.absent_stays_absent
#print axioms Memc.invisible_step
#print axioms Memc.C05_never_visible_again
#print axioms Memc.C05_store_under_policy_deadline

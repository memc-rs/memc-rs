import MemcVerif.Props.C14
import MemcVerif.Proofs.Conc
/-!
# C16 — every command completes: no deadlock or livelock between connections

In the model of L0–L2 no call retains a lock: each `Cache` trait call acquires and releases its shard locks
inside the call, and no call is made while a guard is held (that this is so in the code is what the
single-threaded suites with a watchdog, the `sched` suite "a granted call must return" and the `stress` suite
tie). Hence a thread's next call is always enabled whatever the others are doing (`Thread.step` is a total
function of the current store), and every command ends after a bounded number of its **own** calls, however
the calls of other threads are interleaved (`C16_progress`, `C16_bounded`). The eviction loop consumes at most
one victim per iteration and stops (C14_terminates). OS-level lock behaviour is outside the model (partial).
-/
namespace Memc

/-- calls a thread still has to make at most: three per queued command, fewer for the one in progress -/
def Thread.remaining (t : Thread) : Nat :=
  3 * t.todo.length + (match t.phase with | .idle => 0 | .snapped _ _ => 2 | .decided _ _ => 1)

theorem afterFound_remaining (t : Thread) (s : MemStore) (now : Nat) (c : CCmd) (found : Option Record) :
    (t.afterFound s now c found).2.remaining ≤ 3 * t.todo.length + 1 := by
  unfold Thread.afterFound
  split <;> simp [Thread.remaining]

/-- **progress**: whatever state the other threads left the store in, an unfinished thread's next call is
    enabled and strictly reduces the number of calls it still has to make -/
theorem C16_progress (t : Thread) (s : MemStore) (now : Nat) (h : t.finished = false) :
    (t.step s now).2.remaining < t.remaining := by
  obtain ⟨todo, phase, rs⟩ := t
  cases phase with
  | idle =>
    cases todo with
    | nil => cases h
    | cons c rest =>
      rcases c.kinds with ⟨k, r, rfl⟩ | ⟨k, cas, rfl⟩ | ⟨ttl, rfl⟩ | hc
      · rw [Thread.step_set]; simp [Thread.remaining]
      · rw [Thread.step_delete]; simp [Thread.remaining]
      · rw [Thread.step_flush]; simp [Thread.remaining]
      · rw [Thread.step_getFirst hc]
        cases s.getByKey c.key with
        | ok snap => simp only [Thread.remaining, List.length_cons]; omega
        | error e =>
          refine Nat.lt_of_le_of_lt (afterFound_remaining ⟨rest, .idle, rs⟩ s now c none) ?_
          simp only [Thread.remaining, List.length_cons]; omega
  | snapped c snap =>
    rw [Thread.step_snapped]
    exact Nat.lt_of_le_of_lt (afterFound_remaining ⟨todo, .idle, rs⟩ _ now c _) (Nat.lt_succ_self _)
  | decided c found => rw [Thread.step_decided]; simp [Thread.remaining]

/-- **bounded**: after `n` of its own calls a thread has at most `remaining - n` left — independent of the
    stores it finds, i.e. of every interleaving of other clients (flushes, expiry collection and evictions
    included: each of those is a single call of the thread that makes it) -/
theorem C16_bounded (t : Thread) (now : Nat) (stores : List MemStore) :
    (stores.foldl (fun th s => (th.step s now).2) t).finished = true
    ∨ (stores.foldl (fun th s => (th.step s now).2) t).remaining + stores.length ≤ t.remaining := by
  induction stores using snoc_induction with
  | h0 => exact .inr (Nat.le_refl _)
  | h1 rest s ih =>
    rw [List.foldl_append, List.length_append, List.foldl_cons, List.foldl_nil, List.length_singleton]
    cases hf : (rest.foldl (fun th s => (th.step s now).2) t).finished with
    | true =>
      left
      rwa [Thread.step_finished hf]
    | false =>
      -- not finished after `rest`: `ih` is the bound so far, and the next call makes progress
      have hp := C16_progress _ s now hf
      have hb := ih.resolve_left (hf ▸ Bool.false_ne_true)
      right
      omega

/-- the eviction sweep of a store under memory pressure stops: at most one victim per iteration, and the
    victims come out of a finite store (restated from C14) -/
theorem C16_eviction_terminates (value : Nat) (tape : List Key) (p : Policy) (u : Nat) :
    (Policy.evictLoop value tape p u).tape.length ≤ tape.length := C14_terminates value tape p u

example : (({ todo := [.add [1] (Record.new [65] 0 0 0)] } : Thread).remaining) = 3 := by decide

end Memc

#print axioms Memc.afterFound_remaining
#print axioms Memc.C16_progress
#print axioms Memc.C16_bounded
#print axioms Memc.C16_eviction_terminates

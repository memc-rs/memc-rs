import MemcVerif.Proofs.Loop
import MemcVerif.Proofs.Frames
import MemcVerif.Proofs.Handle
import MemcVerif.Proofs.TablesTie
/-!
# C12 — pipelining: in-order execution, one response per loud request, quiet rules, quit rules

Generic in the store. `execEvs` is the receive loop of `Client::handle` over the decoded requests.
-/
namespace Memc

variable {σ : Type} (C : CacheOps σ)

/-- **in order**: the bytes written for a pipeline are the per-request outputs concatenated in arrival
    order, each request executed on the store left by its predecessors -/
theorem C12_in_order (now : Nat) (s : σ) (e : Ev) (es : List Ev) (hopen : (execEv C now s e).2.2 = false) :
    execEvs C now s (e :: es) =
      ((execEvs C now (execEv C now s e).1 es).1,
       (execEv C now s e).2.1 ++ (execEvs C now (execEv C now s e).1 es).2.1,
       (execEvs C now (execEv C now s e).1 es).2.2) := by
  simp [execEvs, hopen]

/-- loud = not one of the quiet opcodes -/
def loudReq (r : Req) : Bool :=
  match r with
  | .get h _ => !quietGetOp h.opcode
  | .delete h _ => !quietDeleteOp h.opcode
  | .set h _ _ _ _ => !quietSetOp h.opcode
  | .append h _ _ => !quietAppendOp h.opcode
  | .delta h _ _ _ _ => !quietDeltaOp h.opcode
  | .headerOnly h => h.opcode != 0x17
  | .flush h _ => !quietFlushOp h.opcode
  | .tooLarge _ | .notSupported _ => true

/-- every loud request — including the opcodes the server does not implement and oversized ones — is
    answered with exactly one response -/
theorem C12_loud_one (s : σ) (now : Nat) (r : Req) (h : loudReq r = true) :
    ∃ resp, (handleRequest C s now r).2 = some resp := by
  rw [handleRequest_execOp]
  generalize (execOp C s now (reqOp r)).2 = res
  -- `loudReq` is the negation of the flag that sends the answer through a quiet filter
  have loud (q : Bool) (f : Resp → Option Resp) (x : Resp) (hq : (!q) = true) :
      ∃ resp, (if q = true then f x else some x) = some resp := by
    cases q
    · exact ⟨x, rfl⟩
    · cases hq
  cases r with
  | flush hd e => exact loud _ (fun _ => none) _ h
  | headerOnly hd =>
    -- not QuitQ; each of the other alternatives is a `some`
    have h17 : hd.opcode ≠ 0x17 := bne_iff_ne.mp h
    rw [respond_headerOnly, if_neg h17, ← apply_ite some, ← apply_ite some]
    exact ⟨_, rfl⟩
  | tooLarge hd => exact ⟨_, rfl⟩
  | notSupported hd => exact ⟨_, rfl⟩
  | _ =>
    -- get, delete, set, append, delta
    dsimp only [respond]
    exact loud _ _ _ h

def Resp.isErr : Resp → Bool
  | .error _ _ => true
  | _ => false

/-- a quiet mutation responds only with an error -/
theorem C12_quiet_mutation (r resp : Resp) (h : intoQuietMutation r = some resp) : resp = r ∧ r.isErr = true := by
  cases r <;> cases h
  exact ⟨rfl, rfl⟩

/-- … and is silent exactly when the loud command would have succeeded -/
theorem C12_quiet_mutation_silent (r : Resp) : intoQuietMutation r = none ↔ r.isErr = false := by
  cases r <;> simp [intoQuietMutation, Resp.isErr]

/-- a quiet get responds unless it is a miss -/
theorem C12_quiet_get (r : Resp) :
    intoQuietGet r = none ↔ ∃ h t, r = .error h t ∧ h.status = CacheError.notFound.code := by
  cases r <;> simp [intoQuietGet]

/-- quit is answered, then the connection is closed; quitq closes it without an answer -/
theorem C12_quit (s : σ) (now : Nat) (hd : ReqHeader) :
    (hd.opcode = 0x07 → execEv C now s (.frame (.headerOnly hd)) =
        (s, encode (.quit { opcode := hd.opcode, opaq := hd.opaq }), true)) ∧
    (hd.opcode = 0x17 → execEv C now s (.frame (.headerOnly hd)) = (s, [], true)) := by
  constructor
  · intro h; simp [execEv, isQuitQ, handleRequest, Req.header, h, Resp.isQuit]
  · intro h; simp [execEv, isQuitQ, h]

/-- nothing received after quit / quitq / a protocol error is executed or answered -/
theorem C12_nothing_after_close (now : Nat) (s : σ) (e : Ev) (es : List Ev) (hclosed : (execEv C now s e).2.2 = true) :
    execEvs C now s (e :: es) = execEv C now s e := by
  simp [execEvs, hclosed]

theorem C12_closed_ignores_input (limit now : Nat) (c : Conn) (s : σ) (chunk : Bytes) (h : c.closed = true) :
    feed C limit now c s chunk = (c, s, []) := feed_closed C h chunk

/-- a whole pipeline of complete frames in one or many segments: the decoder hands the frames over in
    arrival order (with `C09_segmentation_independent` for the segments) -/
theorem C12_pipeline_order (limit : Nat) (frames : List (Bytes × ReqHeader))
    (hall : ∀ f ∈ frames, IsFrame f.1 f.2 ∧ frameOK limit f.1 f.2 = true) :
    (drain limit .idle (frames.map (·.1)).flatten).1 = frames.map (fun f => frameEv limit f.1 f.2) := by
  rw [drain_frames_nil limit frames hall]

example : loudReq (.notSupported ⟨0x80, 0x1c, 0, 0, 0, 0, 0, 5, 0⟩) = true := by decide

/-! ## the opcode table of this property is the source's (regenerated from /repo on every run: `tools/gentables.py`) -/

/-- which opcodes exist, which are executed by which parser and which are answered 'not supported' (every known opcode
    gets an answer): the model's `opGroup` is `parse_request`'s dispatch as it is now -/
theorem C12_dispatch_is_the_sources :
    Holds Gen.opcodes (fun os => Holds Gen.dispatch (fun t => os = t.map (·.1))) ∧
    Holds Gen.dispatch (fun t => t.all (fun p => (opGroup p.1).idx == p.2) = true) :=
  ⟨by decide, tie_dispatch⟩

end Memc

#print axioms Memc.C12_in_order
#print axioms Memc.C12_loud_one
#print axioms Memc.C12_quiet_mutation
#print axioms Memc.C12_quiet_mutation_silent
#print axioms Memc.C12_quiet_get
#print axioms Memc.C12_quit
#print axioms Memc.C12_nothing_after_close
#print axioms Memc.C12_closed_ignores_input
#print axioms Memc.C12_pipeline_order
#print axioms Memc.C12_dispatch_is_the_sources

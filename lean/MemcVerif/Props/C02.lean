import MemcVerif.Proofs.Ops
import MemcVerif.Proofs.Policy
/-!
# C02 — CAS guards against lost updates

* success iff the carried CAS equals the current one; failure is 'key exists' and changes nothing
  (set, replace, append, prepend, incr/decr, delete);
* the acknowledged CAS is the one retrievals report;
* within a lifetime a CAS value identifies one version of the item: over any history of any length,
  as long as the key stays present (and no store carrying a non-zero CAS re-creates it after expiry —
  the lifetime the property excludes), equal CAS implies equal value and flags.
-/
namespace Memc
open MemStore

/-- conditional `set` on a present item: success iff the CAS matches; failure = key exists, store unchanged -/
theorem C02_set_cas_iff (s : MemStore) (now : Nat) (k : Key) (r x : Record)
    (hl : s.mem.lookup k = some x) (hc : r.header.cas ≠ 0) :
    (r.header.cas = x.header.cas → (s.set now k r).2 = .ok s.casId) ∧
    (r.header.cas ≠ x.header.cas → s.set now k r = (s, .error .keyExists)) :=
  ⟨fun h => by rw [set_current s now k r x hl (.inr h)], fun h => set_mismatch s now k r x hc hl (Ne.symm h)⟩

/-- the same for the read-modify-write commands addressed to a visible item: they succeed iff the
    carried CAS is 0 or the current one, and a rejected one leaves the whole store unchanged -/
theorem C02_rmw_cas_iff (s : MemStore) (now : Nat) (k : Key) (v : Bytes) (cas f ttl : Nat) (x : Record)
    (h : s.vis now k = some x) (hc : cas ≠ 0) :
    (cas ≠ x.header.cas →
        applyOp s now (.replace k (Record.new v cas f ttl)) = (s, .err .keyExists) ∧
        applyOp s now (.append k (Record.new v cas 0 0)) = (s, .err .keyExists) ∧
        applyOp s now (.prepend k (Record.new v cas 0 0)) = (s, .err .keyExists)) ∧
    (cas = x.header.cas →
        (applyOp s now (.replace k (Record.new v cas f ttl))).2 = .stored s.casId ∧
        (applyOp s now (.append k (Record.new v cas 0 0))).2 = .stored s.casId ∧
        (applyOp s now (.prepend k (Record.new v cas 0 0))).2 = .stored s.casId) := by
  have hl := vis_lookup h
  simp only [applyOp, Cmd.replace, Cmd.append, Cmd.prepend, memOps, get_vis_some h]
  constructor
  · intro hne
    have hm : ∀ r : Record, r.header.cas = cas → s.set now k r = (s, .error .keyExists) := fun r hr =>
      set_mismatch s now k r x (hr ▸ hc) hl (hr ▸ Ne.symm hne)
    rw [hm _ rfl, hm _ rfl, hm _ rfl]; exact ⟨rfl, rfl, rfl⟩
  · intro heq
    have hm : ∀ r : Record, r.header.cas = cas → (s.set now k r).2 = .ok s.casId := fun r hr => by
      rw [set_current s now k r x hl (.inr (hr.trans heq))]
    rw [hm _ rfl, hm _ rfl, hm _ rfl]; exact ⟨rfl, rfl, rfl⟩

/-- counters: a stale CAS is rejected with 'key exists' and nothing changes -/
theorem C02_delta_stale (s : MemStore) (now : Nat) (k : Key) (hd : Meta) (d i : Nat) (inc : Bool) (x : Record) (n : Nat)
    (h : s.vis now k = some x) (hp : parseU64 x.value = some n) (hc : hd.cas ≠ 0) (hne : hd.cas ≠ x.header.cas) :
    applyOp s now (.delta k hd d i inc) = (s, .err .keyExists) := by
  simp only [applyOp, Cmd.addDelta, memOps, get_vis_some h, hp]
  rw [set_mismatch s now k _ x hc (vis_lookup h) (Ne.symm hne)]

/-- delete: succeeds iff the CAS is 0 or current; otherwise 'key exists' and no effect -/
theorem C02_delete_cas_iff (s : MemStore) (k : Key) (cas : Nat) (x : Record) (hl : s.mem.lookup k = some x) :
    ((cas = 0 ∨ x.header.cas = cas) → (s.delete k cas).2 = .ok x ∧ (s.delete k cas).1.mem.lookup k = none) ∧
    (¬ (cas = 0 ∨ x.header.cas = cas) → s.delete k cas = (s, .error .keyExists)) := by
  constructor
  · intro h; rw [delete_ok s k cas x hl h]; exact ⟨rfl, Mem.lookup_erase_self ..⟩
  · exact delete_mismatch s k cas x hl

/-- the CAS a store acknowledges is the CAS the next retrieval reports -/
theorem C02_ack_is_reported (s : MemStore) (now : Nat) (k : Key) (r : Record) (c : Nat)
    (h : (s.set now k r).2 = .ok c) :
    ∃ rec, ((s.set now k r).1.get now k).2 = .ok rec ∧ rec.header.cas = c ∧ rec.value = r.value ∧ rec.header.flags = r.header.flags := by
  exact ⟨stamp r c now, by rw [get_live (set_ok_lookup h) (stamp_fresh_not_expired r c now)], rfl, rfl, rfl⟩

/-! ## uniqueness within a lifetime, over histories of any length -/

/-- the steps the property excludes: a command carrying a non-zero CAS addressed to `k` while its
    record is expired (it begins a new lifetime with a client-derived CAS) -/
def ExcludedStep (s : MemStore) (now : Nat) (op : Op) (k : Key) : Prop :=
  op.key = some k ∧ op.cas ≠ 0 ∧ ∃ x, s.mem.lookup k = some x ∧ x.expired now = true

/-- `k` stays present, and no excluded step happens, along the whole history -/
def Lifetime (k : Key) : MemStore → History → Prop
  | _, [] => True
  | s, (now, op) :: rest =>
    ¬ ExcludedStep s now op k ∧ (applyOp s now op).1.mem.lookup k ≠ none ∧ Lifetime k (applyOp s now op).1 rest

/-- invariant carried along a lifetime: the current record is the original version, or carries a
    strictly larger counter-issued CAS -/
theorem lifetime_inv (k : Key) (x : Record) (h : History) :
    ∀ (s : MemStore) (y : Record), s.mem.lookup k = some y → y.header.cas < s.casId →
      (sameItem x y ∨ x.header.cas < y.header.cas) → Lifetime k s h →
      ∃ z, (runOps s h).mem.lookup k = some z ∧ z.header.cas < (runOps s h).casId ∧
        (sameItem x z ∨ x.header.cas < z.header.cas) := by
  induction h with
  | nil => intro s y hl hf hinv _; exact ⟨y, hl, hf, hinv⟩
  | cons e rest ih =>
    obtain ⟨now, op⟩ := e
    intro s y hl hf hinv ⟨hnex, hpres, hrest⟩
    have hxy : x.header.cas ≤ y.header.cas := hinv.elim (fun h => Nat.le_of_eq h.2.2.symm) Nat.le_of_lt
    rcases step_alt s now op k y hl with h1 | ⟨r', h1, hs⟩ | ⟨r', h1, hc, hn, _⟩ | ⟨r', h1, hx, hcas, hkey, _⟩
    · exact absurd h1 hpres
    · -- still `y`, possibly restamped by a flush: value, flags and CAS are unchanged
      obtain ⟨hv, hfl, hcas⟩ : sameItem y r' := by
        rcases hs with rfl | ⟨t, _, rfl⟩
        · exact sameItem_refl _
        · exact flushRecord_same now t y
      exact ih _ r' h1 (hcas ▸ Nat.lt_of_lt_of_le hf (applyOp_casId_le s now op))
        (hinv.imp (fun h => ⟨hv.trans h.1, hfl.trans h.2.1, hcas.trans h.2.2⟩) (fun h => hcas ▸ h)) hrest
    · -- a new version under the next counter value, which is above every CAS issued so far
      exact ih _ r' h1 (by rw [hc, hn]; exact Nat.lt_succ_self _) (.inr (hc ▸ Nat.lt_of_le_of_lt hxy hf)) hrest
    · exact absurd ⟨hkey, hcas, y, hl, hx⟩ hnex

/-- **a CAS value identifies one version**: in a lifetime that starts with a counter-issued CAS, if after
    any history the item reports the same CAS as before, it has the same value and flags — so a client
    holding `(value, cas)` whose CAS-store succeeds has not been overtaken by any mutation. -/
theorem C02_cas_identifies_version (s : MemStore) (k : Key) (x z : Record) (h : History)
    (hl : s.mem.lookup k = some x) (hfresh : x.header.cas < s.casId) (hlife : Lifetime k s h)
    (hz : (runOps s h).mem.lookup k = some z) (hcas : z.header.cas = x.header.cas) :
    z.value = x.value ∧ z.header.flags = x.header.flags := by
  obtain ⟨z', hz', _, hinv⟩ := lifetime_inv k x h s x hl hfresh (Or.inl (sameItem_refl x)) hlife
  cases hz.symm.trans hz'
  rcases hinv with hsame | hlt
  · exact ⟨hsame.1, hsame.2.1⟩
  · exact absurd hcas (Nat.ne_of_gt hlt)

/-- counter-issued lifetimes exist: an unconditional store yields a record below the counter -/
theorem C02_unconditional_store_is_fresh (s : MemStore) (now : Nat) (k : Key) (r : Record) (h0 : r.header.cas = 0) :
    ∃ x, (s.set now k r).1.mem.lookup k = some x ∧ x.header.cas < (s.set now k r).1.casId := by
  rw [set_cas0 s now k r h0]
  exact ⟨_, Mem.lookup_insert_self .., Nat.lt_succ_self _⟩

/-- non-vacuity: a concrete lifetime with a successful CAS store, a failed one and a foreign command -/
example : Lifetime [1] ⟨[([1], ⟨⟨0, 1, 0, 0⟩, [65]⟩)], 2⟩
    [(1, .set [1] (Record.new [66] 1 0 0)), (2, .set [1] (Record.new [67] 1 0 0)), (3, .get [2])] := by
  -- the item has TTL 0 throughout, so no step finds it expired; the last command is addressed to another key
  refine ⟨?_, by decide, ?_, by decide, ?_, by decide, trivial⟩
  · rintro ⟨_, _, x, hx, he⟩; cases hx; cases he
  · rintro ⟨_, _, x, hx, he⟩; cases hx; cases he
  · rintro ⟨hk, _⟩; cases hk

/-! ## under eviction policy random

The property quantifies over both eviction policies. `RandomPolicy::set` evicts first and hands the store to the inner
`set` afterwards, so what a conditional store is compared with is the item *as it survived this request's eviction*. -/

/-- the eviction loop touches only its victims: an item that is not among them is stored afterwards exactly as before -/
theorem evictLoop_lookup_of_not_victim (value : Nat) (tape : List Key) (p : Policy) (u : Nat) (k : Key) (hk : k ∉ tape) :
    (Policy.evictLoop value tape p u).inner.mem.lookup k = p.inner.mem.lookup k := by
  fun_induction Policy.evictLoop value tape p u with
  | case4 p u hg he v rest r hl u' ih =>
    rw [List.mem_cons, not_or] at hk
    rw [ih hk.2]; exact Mem.lookup_erase_ne _ hk.1
  | _ => rfl

/-- **CAS guards against lost updates under memory pressure too**: whatever the memory limit, the accounted usage and the
    victims this request evicts, a store carrying a non-zero CAS that is not the current CAS of an item which is not one of
    those victims is refused with 'key exists', and the item is left exactly as it was -/
theorem C02_policy_stale_cas (p : Policy) (now : Nat) (k : Key) (r old : Record)
    (hl : p.inner.mem.lookup k = some old) (hv : k ∉ p.tape)
    (hc : r.header.cas ≠ 0) (hne : old.header.cas ≠ r.header.cas) :
    (p.set now k r).2 = .error .keyExists ∧ (p.set now k r).1.inner.mem.lookup k = some old := by
  have h1 : (p.incrMemUsage r.len).inner.mem.lookup k = some old := by
    unfold Policy.incrMemUsage
    rw [evictLoop_lookup_of_not_victim _ _ _ _ _ hv]; exact hl
  dsimp only [Policy.set]
  rw [set_mismatch _ now k r old hc h1 hne]
  exact ⟨rfl, h1⟩

/-- **… and so does a delete behind the policy**: with a CAS that is neither 0 nor the item's current one the answer is
    'key exists' and nothing changes — neither the store nor the accounting; with CAS 0 or the current CAS the item is
    removed and exactly its bytes are given back -/
theorem C02_policy_delete_cas_iff (p : Policy) (k : Key) (cas : Nat) (x : Record) (hl : p.inner.mem.lookup k = some x) :
    (¬ (cas = 0 ∨ x.header.cas = cas) → p.delete k cas = (p, .error .keyExists)) ∧
    ((cas = 0 ∨ x.header.cas = cas) →
      (p.delete k cas).2 = .ok x ∧ (p.delete k cas).1.inner.mem.lookup k = none ∧
      (p.delete k cas).1.usage = wsub p.usage x.len) := by
  rw [Policy.delete_eq]
  constructor
  · intro h
    rw [delete_mismatch p.inner k cas x hl h]
  · intro h
    rw [delete_ok p.inner k cas x hl h]
    exact ⟨rfl, Mem.lookup_erase_self .., rfl⟩

/-- non-vacuity: limit 60, an item of 25 bytes stored with CAS 1, a 50-byte store with the stale CAS 7 that evicts
    nothing it addresses (empty victim tape) -/
example : ((({ inner := ⟨[([1], ⟨⟨0, 1, 0, 0⟩, [65]⟩)], 2⟩, usage := 25, limit := 1000 } : Policy).set 0 [1]
    (Record.new [66] 7 0 0)).2 matches .error .keyExists) = true := by decide

end Memc

#print axioms Memc.C02_set_cas_iff
#print axioms Memc.C02_rmw_cas_iff
#print axioms Memc.C02_delta_stale
#print axioms Memc.C02_delete_cas_iff
#print axioms Memc.C02_ack_is_reported
#print axioms Memc.lifetime_inv
#print axioms Memc.C02_cas_identifies_version
#print axioms Memc.C02_unconditional_store_is_fresh
#print axioms Memc.evictLoop_lookup_of_not_victim
#print axioms Memc.C02_policy_stale_cas
#print axioms Memc.C02_policy_delete_cas_iff

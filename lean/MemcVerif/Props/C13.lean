import MemcVerif.Proofs.Feed
import MemcVerif.Proofs.RespRT
import MemcVerif.Proofs.Frames
import MemcVerif.Proofs.Skip
import MemcVerif.Proofs.TablesTie
/-!
# C13 — item size limit: oversized requests are refused and skipped cleanly
-/
namespace Memc

variable {σ : Type} (C : CacheOps σ)

/-- an oversized request is answered 'too large' (status 3), with the request's opcode and opaque, and the
    store is untouched — for every opcode (the refusal happens before the opcode is looked at) -/
theorem C13_too_large_answer (s : σ) (now : Nat) (h : ReqHeader) :
    execEv C now s (.frame (.tooLarge h)) =
      (s, encode (errorResp .valueTooLarge { opcode := h.opcode, opaq := h.opaq }), false) ∧
    (errorResp .valueTooLarge { opcode := h.opcode, opaq := h.opaq }).header.status = 3 :=
  ⟨execEv_tooLarge C now s h, rfl⟩

/-- in particular an oversized request whose opcode is quit or quitq is *not* a quit: it is answered 'too large' and the
    connection stays open (the loud and the quiet closing rule both look at the decoded request, never at the raw opcode) -/
theorem C13_oversized_quit_keeps_open (s : σ) (now : Nat) (h : ReqHeader) (_hq : h.opcode = 0x07 ∨ h.opcode = 0x17) :
    (execEv C now s (.frame (.tooLarge h))).2.2 = false ∧
    (execEv C now s (.frame (.tooLarge h))).2.1 ≠ [] := by
  rw [execEv_tooLarge]
  refine ⟨rfl, ?_⟩
  intro h0
  have hlen := congrArg List.length h0
  simp [encode, encodeHeader_length] at hlen

/-- **skipped cleanly, however the body is split**: for a pipeline `oversized frame ++ rest`, delivered in
    any segmentation, the result is: the 'too large' answer, then exactly what `rest` alone produces on the
    untouched store. (One segment by `drain_frame`; all others by `feedAll_flatten`, as in `C09_segmentation_independent`.) -/
theorem C13_skip_exact (limit now : Nat) (s : σ) (fb : Bytes) (h : ReqHeader) (rest : Bytes)
    (hf : IsFrame fb h) (hv : headerValid h = true) (hbig : h.bodyLen > limit) :
    feed C limit now Conn.init s (fb ++ rest) =
      ((feed C limit now Conn.init s rest).1, (feed C limit now Conn.init s rest).2.1,
       encode (errorResp .valueTooLarge { opcode := h.opcode, opaq := h.opaq }) ++ (feed C limit now Conn.init s rest).2.2) := by
  have hok : frameOK limit fb h = true := by rw [frameOK, hv, decide_eq_true hbig]; rfl
  have hev : frameEv limit fb h = .frame (.tooLarge h) := if_pos hbig
  simp only [feed_init, drain_frame limit hf rest hok, hev, execEvs, execEv_tooLarge, Bool.false_eq_true, if_false]

theorem C13_any_segmentation (limit now : Nat) (s : σ) (fb : Bytes) (h : ReqHeader) (rest : Bytes) (cs : List Bytes)
    (hne : cs ≠ []) (hcs : cs.flatten = fb ++ rest)
    (hf : IsFrame fb h) (hv : headerValid h = true) (hbig : h.bodyLen > limit) :
    feedAll C limit now Conn.init s cs =
      ((feed C limit now Conn.init s rest).1, (feed C limit now Conn.init s rest).2.1,
       encode (errorResp .valueTooLarge { opcode := h.opcode, opaq := h.opaq }) ++ (feed C limit now Conn.init s rest).2.2) := by
  rw [feedAll_flatten C limit now Conn.init s hne, hcs]
  exact C13_skip_exact C limit now s fb h rest hf hv hbig

/-- a size-consistent parser state: a body is being discarded only if it exceeds the limit -/
def PState.sizeOK (limit : Nat) : PState → Prop
  | .skipping h _ => h.bodyLen > limit
  | _ => True

theorem Decode1.sizeOK {limit : Nat} {st : PState} {buf : Bytes} {d : Dec} (hs : st.sizeOK limit) :
    Decode1 limit st buf d →
    match d with
    | .needMore st' _ => st'.sizeOK limit
    | .emit e st' _ => (∀ h, e = .frame (.tooLarge h) → h.bodyLen > limit) ∧ st'.sizeOK limit := by
  intro h
  induction h with
  | header _ _ _ ih => exact ih trivial
  | oversize hbig _ ih => exact ih hbig
  | frame _ _ hp => exact ⟨fun h he => absurd (Ev.frame.inj he ▸ hp) (parseBody_ne_tooLarge _ _ _), trivial⟩
  | skipped => exact ⟨fun h he => by cases he; exact hs, trivial⟩
  | skipMore => exact hs
  | badHeader | badBody => exact ⟨nofun, trivial⟩
  | short | wait | dead => trivial

/-- **a request within the limit is never rejected for size**: over a whole drain from a size-consistent state (in
    particular from a fresh connection) a request is refused as too large only if its body length exceeds the limit -/
theorem C13_within_limit_never_rejected (limit : Nat) (st : PState) (buf : Bytes) (hs : st.sizeOK limit) :
    (∀ h, .frame (.tooLarge h) ∈ (drain limit st buf).1 → h.bodyLen > limit) ∧ (drain limit st buf).2.1.sizeOK limit := by
  fun_induction drain limit st buf with
  | case1 st buf st' buf' hd => exact ⟨fun _ hm => absurd hm List.not_mem_nil, (decode1_iff.1 hd).sizeOK hs⟩
  | case2 st buf e st' buf' hd r ih =>
    obtain ⟨he, hs'⟩ := (decode1_iff.1 hd).sizeOK hs
    exact ⟨fun h hm => (List.mem_cons.1 hm).elim (fun heq => he h heq.symm) ((ih hs').1 h), (ih hs').2⟩

example : PState.sizeOK 1024 .idle := trivial

/-! ## the socket-side discard loop (`skip_bytes`)

`Model/Skip`: the loop as it is written — a scratch buffer of min(bytes, 64 KiB), re-sized after every read to what is still
owed. The socket's deliveries are universally quantified: any number of reads, each returning between one byte and the
capacity offered. -/

/-- **however the rest of an oversized body arrives**, the discard loop never takes a byte that belongs to the next request
    (its `panic!("Read too much …")` branch is unreachable), when it finishes it has discarded exactly `bytes`, and it makes
    progress with every read: after `bytes` reads at the latest it has finished -/
theorem C13_skip_loop_exact (bytes : Nat) (ds : List Nat) (s' : SkipSt)
    (h : SkipSt.run bytes (SkipSt.init bytes) ds = some s') :
    s'.overread = false ∧ s'.counter ≤ bytes ∧ (s'.done = true → s'.counter = bytes) ∧
    (s'.done = false → ds.length ≤ s'.counter ∧ s'.counter < bytes ∧ 0 < s'.cap ∧ s'.cap ≤ bytes - s'.counter) := by
  obtain ⟨⟨h1, h2, h3, h4⟩, h5⟩ := SkipSt.run_inv ds (SkipSt.inv_init bytes) h
  refine ⟨h1, h2, h3, fun hf => ?_⟩
  have a : 0 + ds.length ≤ s'.counter := h5 hf
  rw [Nat.zero_add] at a
  obtain ⟨hcap, hpos⟩ := h4 hf
  exact ⟨a, Nat.lt_of_sub_pos (Nat.lt_of_lt_of_le hpos hcap), hpos, hcap⟩

/-- the scratch-buffer size of the model is the literal of `skip_bytes` as re-extracted from the source on this run -/
theorem C13_skip_buffer_is_the_sources : Holds Gen.skipBuf (fun n => n = SKIP_BUF) := by decide

/-- the size test of the model's decoder is the one the codec's source has at every site where it compares the announced body
    length with the item size limit (`>`: a body of exactly the limit is within it), as re-extracted on this run -/
theorem C13_size_test_is_the_sources :
    Holds Gen.sizeTests (fun ops => ops.all (fun op =>
      [1024, 1048576].all (fun l => [l - 1, l, l + 1].all (fun b => opRefuses op b l == modelRefuses b l))) = true) :=
  by decide

/-- non-vacuity: 150 000 bytes owed, delivered as 65536 + 1 + 65535 + 18928 -/
example : (SkipSt.run 150000 (SkipSt.init 150000) [65536, 1, 65535, 18928]).map (·.done) = some true := by decide

end Memc

#print axioms Memc.C13_too_large_answer
#print axioms Memc.C13_skip_exact
#print axioms Memc.C13_any_segmentation
#print axioms Memc.Decode1.sizeOK
#print axioms Memc.C13_within_limit_never_rejected
#print axioms Memc.C13_skip_loop_exact
#print axioms Memc.C13_skip_buffer_is_the_sources
#print axioms Memc.C13_size_test_is_the_sources
#print axioms Memc.C13_oversized_quit_keeps_open

import MemcVerif.Proofs.Server
/-!
# C17 — the connection limit is enforced and slots are always returned

Over every sequence of connection life-cycles of any length, for every limit. The seven ways a connection
can end are one event (`finish`) because `Drop for Client` is the only place a permit is returned and every
exit of `Client::handle` drops the client; that they all do is what the `server` suite ties to the code.
Tokio's semaphore and task scheduling are trusted.
-/
namespace Memc
open Srv

/-- after any history permits and served connections add up to the limit -/
theorem C17_inv (limit : Nat) (es : List SEv) :
    (run (Srv.init limit) es).Inv ∧ (run (Srv.init limit) es).limit = limit := by
  refine run_induction (s := Srv.init limit) (P := fun s => s.Inv ∧ s.limit = limit) ⟨Nat.add_zero limit, rfl⟩
    (fun s e ⟨h1, h2⟩ => ?_) es
  exact ⟨(step_inv s e h1).1, (step_inv s e h1).2.trans h2⟩

/-- **at most `limit` connections are served, after any history** -/
theorem C17_at_most_limit (limit : Nat) (es : List SEv) : (run (Srv.init limit) es).served.length ≤ limit := by
  obtain ⟨h1, h2⟩ := C17_inv limit es
  unfold Srv.Inv at h1; unfold served; omega

/-- **every slot comes back, exactly once**: when no connection is being served any more the server can
    again serve `limit` fresh ones — and never more (the permit count is exactly the limit) -/
theorem C17_fresh_limit_again (limit : Nat) (es : List SEv) (hnone : (run (Srv.init limit) es).active = []) :
    (run (Srv.init limit) es).permits = limit := by
  obtain ⟨h1, h2⟩ := C17_inv limit es
  rw [Srv.Inv, hnone] at h1
  exact h1.trans h2

/-- **picked up as soon as a slot frees**: a connection held by the accept loop is served by the very
    event that ends a served one -/
theorem C17_pickup (s : Srv) (i j : Nat) (hi : s.active.contains i = true) (hj : s.holding = some j)
    (hgone : s.gone.contains j = false) : j ∈ (step s (.finish i)).served := by
  rw [step_finish_served hi, settle]
  -- the freed permit goes to `j`; after that the loop may accept further connections but never removes `j`
  simp only [hj, Nat.succ_pos, if_true, hgone, Bool.false_eq_true, if_false]
  exact settle_active (List.mem_append_right _ (List.mem_singleton_self j))

/-- **work conserving**: after any history, nobody waits (held or in the backlog) while a permit is free — a
    connection is refused service only because `limit` others are being served -/
theorem C17_work_conserving (limit : Nat) (es : List SEv) : (run (Srv.init limit) es).Stuck :=
  run_induction (.inr ⟨rfl, rfl⟩) step_stuck es

/-- spelled out: a free permit means nobody is waiting -/
theorem C17_free_permit_nobody_waits (limit : Nat) (es : List SEv) (hp : (run (Srv.init limit) es).permits > 0) :
    (run (Srv.init limit) es).holding = none ∧ (run (Srv.init limit) es).backlog = [] := by
  rcases C17_work_conserving limit es with ⟨_, h0⟩ | h
  · omega
  · exact h

/-- non-vacuity and an end-to-end instance: limit 1, three connections, the first two end -/
example : (run (Srv.init 1) [.connect 0, .connect 1, .connect 2, .finish 0, .finish 1]).served = [2] := by decide

/-- the configuration is enforced as given (C20): one semaphore in every runtime, total limit = configured -/
theorem C17_config_total_limit (c : Config) : (effective c).totalConnLimit = c.connLimit ∧ (effective c).semaphores = 1 :=
  ⟨rfl, rfl⟩

end Memc

#print axioms Memc.settle_inv
#print axioms Memc.step_inv
#print axioms Memc.C17_inv
#print axioms Memc.C17_at_most_limit
#print axioms Memc.C17_fresh_limit_again
#print axioms Memc.C17_pickup
#print axioms Memc.C17_config_total_limit
#print axioms Memc.settle_stuck
#print axioms Memc.C17_work_conserving
#print axioms Memc.C17_free_permit_nobody_waits

import MemcVerif.Proofs.Feed
/-!
# C09 — request framing is independent of TCP segmentation

Model: `Conn` (parser state + buffered bytes) and `feed` (a chunk arrives: append, decode everything that is
complete, execute in order). Generic in the store. Chunks arrive within the idle timeout (timing is not content).
-/
namespace Memc

variable {σ : Type} (C : CacheOps σ)

/-- delivering `a` and then `b` is the same as delivering `a ++ b`: same responses, store, connection state -/
theorem C09_feed_feed (limit now : Nat) (c : Conn) (s : σ) (a b : Bytes) :
    feed C limit now c s (a ++ b) =
      ((feed C limit now (feed C limit now c s a).1 (feed C limit now c s a).2.1 b).1,
       (feed C limit now (feed C limit now c s a).1 (feed C limit now c s a).2.1 b).2.1,
       (feed C limit now c s a).2.2 ++ (feed C limit now (feed C limit now c s a).1 (feed C limit now c s a).2.1 b).2.2) :=
  feed_feed C limit now c s a b

/-- **segmentation independence**: any two ways of cutting the same bytes into consecutive reads — any
    number of cuts, anywhere — give the same response bytes, the same store and the same connection state -/
theorem C09_segmentation_independent (limit now : Nat) (c : Conn) (s : σ) (cs1 cs2 : List Bytes)
    (h1 : cs1 ≠ []) (h2 : cs2 ≠ []) (heq : cs1.flatten = cs2.flatten) :
    feedAll C limit now c s cs1 = feedAll C limit now c s cs2 := by
  rw [feedAll_flatten C limit now c s h1, feedAll_flatten C limit now c s h2, heq]

/-- at the decoder: the events decoded from `buf ++ x` are those of `buf` followed by those of the residue
    with `x` appended -/
theorem C09_decoder_stream (limit : Nat) (st : PState) (buf x : Bytes) :
    (drain limit st (buf ++ x)).1 =
      (drain limit st buf).1 ++ (drain limit (drain limit st buf).2.1 ((drain limit st buf).2.2 ++ x)).1 := by
  rw [drain_append]

/-- **exact consumption**: a request emitted from the idle state is taken from exactly the
    `24 + body_length` bytes its header announces; what follows is left untouched. Otherwise the connection
    is dead (protocol error) or more bytes are awaited. -/
theorem C09_exact_consumption (limit : Nat) (buf : Bytes) (r : Req) (st' : PState) (buf' : Bytes)
    (h : decode1 limit .idle buf = .emit (.frame r) st' buf') :
    st' = .idle ∧ HEADER_LEN + (parseHeader buf).bodyLen ≤ buf.length ∧
    buf' = buf.drop (HEADER_LEN + (parseHeader buf).bodyLen) := by
  cases decode1_iff.1 h with
  | header hl hv hb =>
    cases hb with
    | oversize hbig hs =>
      cases hs with
      | skipped hle => exact ⟨rfl, Nat.add_le_of_le_sub' hl (List.length_drop ▸ hle), List.drop_drop⟩
    | frame hlim hle hp => exact ⟨rfl, Nat.add_le_of_le_sub' hl (List.length_drop ▸ hle), List.drop_drop⟩

/-- the same for an oversized body that arrives in pieces: the bytes still owed are tracked exactly
    (`skipping h n` with `n = body_length - buffered`) and exactly `n` more are discarded -/
theorem C09_exact_skip (limit : Nat) (buf : Bytes) (h : ReqHeader) (n : Nat)
    (hd : decode1 limit .idle buf = .needMore (.skipping h n) []) :
    h = parseHeader buf ∧ n = HEADER_LEN + h.bodyLen - buf.length ∧ buf.length < HEADER_LEN + h.bodyLen := by
  cases decode1_iff.1 hd with
  | header hl hv hb =>
    cases hb with
    | oversize hbig hs =>
      cases hs with
      | skipMore hlt =>
        rw [List.length_drop] at hlt ⊢
        refine ⟨rfl, ?_, (Nat.sub_lt_iff_lt_add' hl).1 hlt⟩
        -- the header's 24 bytes are there (`hl`): take them off both sides of the subtraction
        rw [← Nat.sub_sub_sub_cancel_right hl, Nat.add_sub_cancel_left]

theorem C09_skip_discards_exactly (limit : Nat) (h : ReqHeader) (n : Nat) (buf : Bytes) :
    (n ≤ buf.length → decode1 limit (.skipping h n) buf = .emit (.frame (.tooLarge h)) .idle (buf.drop n)) ∧
    (buf.length < n → decode1 limit (.skipping h n) buf = .needMore (.skipping h (n - buf.length)) []) :=
  ⟨fun hle => (Decode1.skipped hle).eq, fun hlt => (Decode1.skipMore hlt).eq⟩

/-- non-vacuity: two chunkings of one stream -/
example : ([[1, 2], [3], [4, 5, 6]] : List Bytes).flatten = ([[1], [2, 3, 4, 5], [6]] : List Bytes).flatten := by decide

end Memc

#print axioms Memc.C09_feed_feed
#print axioms Memc.C09_segmentation_independent
#print axioms Memc.C09_decoder_stream
#print axioms Memc.C09_exact_consumption
#print axioms Memc.C09_exact_skip
#print axioms Memc.C09_skip_discards_exactly

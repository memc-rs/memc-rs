import MemcVerif.Proofs.Conn
import MemcVerif.Proofs.TablesTie
/-!
# C10 — no client input can crash, hang or bloat request processing

* **no crash**: every model function is total and every arithmetic/slicing step of the Rust code that can
  panic is guarded: the per-opcode parsers only run on requests for which the bytes they consume are
  present (`C10_parse_in_bounds`), `get_value_len` never underflows (`C10_value_len_safe`), counters use
  wrapping/saturating arithmetic in the model exactly where the repaired code does.
* **no hang**: `drain` is defined by well-founded recursion on `pmeasure` (each emitted event strictly
  decreases it — `decode1_emit_measure`), so the decode loop terminates for every byte string.
* **rejected headers are never executed** (`C10_rejected_*`).
* **memory**: the data retained between reads is below max(24, limit+1) bytes (`C10_buffer_logic`, `C10_retained_bytes_bounded`);
  the allocator's capacity behaviour is measured by the harness (partial, see DESIGN.md).
-/
namespace Memc

variable {σ : Type} (C : CacheOps σ)

/-- number of body octets the Rust parser of the opcode's group consumes (`split_to` / `get_uN` calls) -/
def parseNeeds (h : ReqHeader) : Nat :=
  match opGroup h.opcode with
  | .get | .delete => h.keyLen
  | .headerOnly | .unsupported | .invalid => 0
  | .flush => if h.extrasLen = 4 then 4 else 0
  | .append => h.keyLen + valueLen h
  | .delta => 20 + h.keyLen
  | .set => 8 + h.keyLen + valueLen h

/-- whenever a request is produced, the bytes its parser slices off are all there: no `split_to`,
    `get_u32`, `get_u64` can run past the end of the body -/
theorem C10_parse_in_bounds (h : ReqHeader) (body : Bytes) (r : Req) (hlen : body.length = h.bodyLen)
    (hp : parseBody h body = some r) : parseNeeds h ≤ body.length := by
  unfold parseNeeds
  unfold parseBody at hp
  generalize opGroup h.opcode = g at hp ⊢
  cases g
  case unsupported | headerOnly | invalid => exact Nat.zero_le _
  case get | delete =>
    obtain ⟨-, -, -, hsum⟩ := requestValid_iff.1 (of_guard_eq_some hp).1
    exact hlen ▸ Nat.le_trans (Nat.le_add_right ..) hsum
  case append => have := requestValid_iff.1 (of_guard_eq_some hp).1; dsimp only [valueLen]; omega
  case flush => have := requestValid_iff.1 (of_guard_eq_some hp).1; dsimp only; split <;> omega
  case set | delta => exact Nat.le_of_not_lt (Option.ite_none_left_eq_some.1 (of_guard_eq_some hp).2).1

/-- `get_value_len` (`body_length - (key_length + extras_length)`) is only evaluated after `request_valid` -/
theorem C10_value_len_safe (h : ReqHeader) (kr : Bool) (hv : requestValid h kr = true) :
    h.keyLen + h.extrasLen ≤ h.bodyLen ∧ h.keyLen + h.extrasLen < 65536 := by
  have := requestValid_iff.1 hv; omega

/-- wrong magic, opcode ≥ 0x25, or non-zero data type: the connection is closed, nothing is produced -/
theorem C10_rejected_header (limit : Nat) (buf : Bytes) (hlen : HEADER_LEN ≤ buf.length)
    (hbad : (parseHeader buf).magic ≠ 0x80 ∨ (parseHeader buf).opcode ≥ 0x25 ∨ (parseHeader buf).dataType ≠ 0) :
    decode1 limit .idle buf = .emit .protoErr .dead [] := by
  refine (Decode1.badHeader hlen (Bool.eq_false_iff.2 fun hv => ?_)).eq
  simp only [headerValid, Bool.and_eq_true, beq_iff_eq, decide_eq_true_eq] at hv
  unfold OPCODE_MAX at hv
  omega

/-- key longer than 250, more than 20 extras bytes, a missing required key, a body shorter than key+extras,
    or an unknown opcode (0x1b, 0x1f): no request is produced for the implemented commands; the opcodes the
    server does not implement yield a `notSupported` request, which is answered but never executed -/
theorem C10_rejected_body (h : ReqHeader) (body : Bytes)
    (hbad : h.keyLen > 250 ∨ h.extrasLen > 20 ∨ h.bodyLen < h.keyLen + h.extrasLen ∨ opGroup h.opcode = .invalid
      ∨ (h.keyLen = 0 ∧ (opGroup h.opcode = .get ∨ opGroup h.opcode = .delete ∨ opGroup h.opcode = .set
          ∨ opGroup h.opcode = .append ∨ opGroup h.opcode = .delta))) :
    parseBody h body = none ∨ parseBody h body = some (.notSupported h) := by
  unfold parseBody
  generalize opGroup h.opcode = g at hbad ⊢
  -- all seven parsers start with `request_valid`; they require a key in exactly the five groups named in `hbad`
  have guard (kr : Bool) (hk : g ≠ .invalid) (hkr : kr = false → g = .headerOnly ∨ g = .flush) (x : Option Req) :
      (if !requestValid h kr then none else x) = none := by
    cases hv : requestValid h kr
    · rfl
    obtain ⟨h1, h2, h3, h4⟩ := requestValid_iff.1 hv
    rcases hbad with hb | hb | hb | hb | ⟨hb, hg⟩
    · exact absurd hb (Nat.not_lt.2 h2)
    · exact absurd hb (Nat.not_lt.2 h1)
    · exact absurd hb (Nat.not_lt.2 h4)
    · exact absurd hb hk
    · cases kr
      · rcases hkr rfl with rfl | rfl <;> simp at hg
      · exact absurd hb (h3 rfl)
  cases g
  case unsupported => exact .inr rfl
  case invalid => exact .inl rfl
  case headerOnly => exact .inl (guard false nofun (fun _ => .inl rfl) _)
  case flush => exact .inl (guard false nofun (fun _ => .inr rfl) _)
  all_goals exact .inl (guard true nofun nofun _)

/-- what is not a request is not executed: a protocol error, an oversized request and an unimplemented
    opcode leave the store exactly as it was -/
theorem C10_not_executed (now : Nat) (s : σ) (h : ReqHeader) :
    (execEv C now s .protoErr).1 = s ∧ (execEv C now s .protoErr).2.1 = [] ∧
    (execEv C now s (.frame (.tooLarge h))).1 = s ∧ (execEv C now s (.frame (.notSupported h))).1 = s :=
  ⟨rfl, rfl, rfl, rfl⟩

/-- the data a connection retains between reads: fewer than 24 bytes while waiting for a header, fewer
    than the announced body (itself within the limit) while waiting for a body, nothing while discarding
    an oversized body or after an error -/
def PState.bufOK (limit : Nat) : PState → Bytes → Prop
  | .idle, buf => buf.length < HEADER_LEN
  | .hdr h, buf => buf.length < h.bodyLen ∧ h.bodyLen ≤ limit
  | .skipping _ _, buf => buf = []
  | .dead, buf => buf = []

theorem Decode1.bufOK {limit st buf d} : Decode1 limit st buf d →
    match d with
    | .needMore st' buf' => st'.bufOK limit buf'
    | .emit .. => True := by
  intro h
  induction h with
  | header _ _ _ ih | oversize _ _ ih => exact ih
  | short hl => exact hl
  | wait hle hlt => exact ⟨hlt, hle⟩
  | skipMore | dead => rfl
  | _ => trivial

/-- after every read, however long the input and whatever lengths its headers announce: `drain` stops at a turn that waits -/
theorem C10_buffer_logic (limit : Nat) (st : PState) (buf : Bytes) :
    (drain limit st buf).2.1.bufOK limit (drain limit st buf).2.2 :=
  (decode1_iff.1 (decode1_drain limit st buf)).bufOK

theorem C10_retained_bytes_bounded (limit : Nat) (st : PState) (buf : Bytes) :
    (drain limit st buf).2.2.length < max HEADER_LEN (limit + 1) := by
  have := C10_buffer_logic limit st buf
  generalize (drain limit st buf).2.1 = st' at this
  generalize (drain limit st buf).2.2 = b at this
  cases st' with
  | idle => exact Nat.lt_of_lt_of_le this (Nat.le_max_left ..)
  | hdr h => exact Nat.lt_of_lt_of_le (Nat.lt_succ_of_le (Nat.le_trans (Nat.le_of_lt this.1) this.2)) (Nat.le_max_right ..)
  | skipping | dead => subst this; exact Nat.lt_of_lt_of_le (Nat.succ_pos limit) (Nat.le_max_right ..)

/-! ## the tables of this property are the source's (regenerated from /repo on every run: `tools/gentables.py`) -/

/-- the thresholds the model's `requestValid` applies (extras ≤ 20, key ≤ 250) are the literals of `request_valid` in
    `binary_codec.rs` as it is now -/
theorem C10_limits_are_the_sources : Holds Gen.limits (fun l =>
      requestValid { hdr0 with extrasLen := l.1, bodyLen := l.1 + 1 } true = true ∧
      requestValid { hdr0 with extrasLen := l.1 + 1, bodyLen := l.1 + 2 } true = false ∧
      requestValid { hdr0 with keyLen := l.2, bodyLen := l.2 } true = true ∧
      requestValid { hdr0 with keyLen := l.2 + 1, bodyLen := l.2 + 1 } true = false) := by decide

/-- `OpCodeMax` and the set of opcodes that reach a parser: every value of the opcode byte that `parse_request` does not
    dispatch is rejected by the model too, and every dispatched one goes to the same parser -/
theorem C10_opcode_table_is_the_sources :
    Holds Gen.opcodeMax (fun n => n = OPCODE_MAX) ∧
    Holds Gen.dispatch (fun t => t.all (fun p => (opGroup p.1).idx == p.2) = true) ∧
    Holds Gen.dispatch (fun t => (List.range 256).all (fun op => t.any (fun p => p.1 == op) || (opGroup op).idx == 8) = true) :=
  ⟨by decide, tie_dispatch, tie_dispatch_complete⟩

end Memc

#print axioms Memc.C10_parse_in_bounds
#print axioms Memc.C10_value_len_safe
#print axioms Memc.C10_rejected_header
#print axioms Memc.C10_rejected_body
#print axioms Memc.C10_not_executed
#print axioms Memc.Decode1.bufOK
#print axioms Memc.C10_buffer_logic
#print axioms Memc.C10_retained_bytes_bounded
#print axioms Memc.C10_limits_are_the_sources
#print axioms Memc.C10_opcode_table_is_the_sources

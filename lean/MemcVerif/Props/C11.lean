import MemcVerif.Proofs.Handle
import MemcVerif.Proofs.RespRT
import MemcVerif.Proofs.TablesTie
/-!
# C11 — every response is a well-formed, correctly correlated frame

Generic in the store: `C : CacheOps σ` is arbitrary, so the statements hold for every store state and
every outcome (success and every error) the storage layer can produce.
-/
namespace Memc

def statusInTable (st : Nat) : Bool :=
  [0, 1, 2, 3, 4, 5, 6, 0x20, 0x21, 0x81, 0x82, 0x83, 0x84, 0x85, 0x86].contains st

def reqKey : Req → Bytes
  | .get _ k | .delete _ k | .set _ _ _ k _ | .append _ k _ | .delta _ _ _ _ k => k
  | _ => []

/-- the layout rules of the property, as a decidable predicate on (request, response) -/
def wellFormed (req : Req) (r : Resp) : Bool :=
  r.header.opcode == req.header.opcode && r.header.opaq == req.header.opaq &&
  match r with
  | .error h t => h.status != 0 && statusInTable h.status && h.keyLen == 0 && h.extrasLen == 0
      && h.bodyLen == t.length && !t.isEmpty
  | .get h _ key value => h.status == 0 && h.extrasLen == 4 && h.keyLen == key.length
      && h.bodyLen == 4 + key.length + value.length
      && (if getKeyOp req.header.opcode then key == reqKey req else key == [])
  | .plain h | .quit h => h.status == 0 && h.bodyLen == 0 && h.keyLen == 0 && h.extrasLen == 0
  | .version h v => h.status == 0 && h.keyLen == 0 && h.extrasLen == 0 && h.bodyLen == v.length
  | .counter h _ => h.status == 0 && h.bodyLen == 8 && h.keyLen == 0 && h.extrasLen == 0

/-- every error goes out with a non-zero status of the table and a non-empty message (`cache/error.rs`) -/
theorem CacheError.onWire (e : CacheError) : e.code ≠ 0 ∧ statusInTable e.code = true ∧ e.text ≠ [] := by
  cases e <;> decide

theorem errorResp_wf (req : Req) (e : CacheError) :
    wellFormed req (errorResp e { opcode := req.header.opcode, opaq := req.header.opaq }) = true := by
  obtain ⟨hc, ht, hx⟩ := e.onWire
  simp [wellFormed, errorResp, Resp.header, hc, ht, hx]

theorem plain_wf (req : Req) (c : Nat) :
    wellFormed req (.plain { opcode := req.header.opcode, opaq := req.header.opaq, cas := c }) = true := by
  simp only [wellFormed, Resp.header, Bool.and_eq_true, Nat.beq_eq_true_eq, and_self]

/-- whatever the storage layer returned, what `respond` builds from it is well formed and correlated with the request -/
theorem respond_wf {req : Req} {res : Res} {resp : Resp} (h : respond req res = some resp) :
    wellFormed req resp = true := by
  cases req with
  | get hd key =>
    obtain rfl := quietGet_some h
    cases res with
    | record rec =>
      dsimp only [wellFormed, Resp.header, Req.header, reqKey]
      -- all clauses but two read `x == x`: the body length, and the one about the key `k` that is sent, which is
      -- `k == k` with the test of the opcode pushed inside (`apply_ite`)
      simp only [Bool.and_eq_true, Nat.beq_eq_true_eq, true_and, and_self]
      exact ⟨(Nat.add_assoc ..).trans (Nat.add_comm ..), (apply_ite (_ == ·) ..).symm.trans (beq_self_eq_true _)⟩
    | _ => exact errorResp_wf _ _
  | delete hd key =>
    obtain rfl := quietMutation_some h
    cases res with
    | err e => exact errorResp_wf _ e
    | _ => exact plain_wf _ 0
  | set hd flags exp key value | append hd key value =>
    obtain rfl := quietMutation_some h
    cases res with
    | stored c => exact plain_wf _ c
    | _ => exact errorResp_wf _ _
  | delta hd d i exp key =>
    obtain rfl := quietMutation_some h
    cases res with
    | counter d => simp only [wellFormed, Resp.header, Bool.and_eq_true, Nat.beq_eq_true_eq, and_self]
    | _ => exact errorResp_wf _ _
  | headerOnly hd =>
    rw [respond_headerOnly] at h
    split at h
    · cases h; exact plain_wf _ 0
    · split at h
      · cases h
        simp only [wellFormed, Resp.header, Req.header, Bool.and_eq_true, Nat.beq_eq_true_eq, and_self]
      · split at h <;> cases h
        simp only [wellFormed, Resp.header, Req.header, Bool.and_eq_true, Nat.beq_eq_true_eq, and_self]
  | flush hd exp =>
    -- a quiet flush answers as a quiet mutation that succeeded does: not at all
    obtain rfl := quietMutation_some (r := .plain _) h
    exact plain_wf _ 0
  | tooLarge hd => cases h; exact errorResp_wf _ _
  | notSupported hd => cases h; exact errorResp_wf _ _

variable {σ : Type} (C : CacheOps σ)

/-- **every response the handler produces is well formed and correlated with its request**, for every
    request of every opcode, every store and every storage outcome -/
theorem C11_wellformed (s : σ) (now : Nat) (req : Req) (resp : Resp)
    (h : (handleRequest C s now req).2 = some resp) : wellFormed req resp = true := by
  rw [handleRequest_execOp] at h
  exact respond_wf h

/-- a well-formed response occupies exactly `24 + body_length` bytes: the client can find the next one -/
theorem C11_frame_length (req : Req) (r : Resp) (h : wellFormed req r = true) :
    (encode r).length = 24 + r.header.bodyLen := by
  -- whatever the shape, `wellFormed` pins `bodyLen` to the length of what `encode` puts after the 24 header octets
  cases r
  all_goals
    simp only [wellFormed, Resp.header, Bool.and_eq_true, Nat.beq_eq_true_eq] at h
    simp only [encode, Resp.header, List.length_append, encodeHeader_length, putBE_length, List.length_nil, h]

/-- the first byte of every response is the response magic 0x81 and the data type byte is 0 -/
theorem C11_magic_and_datatype (r : Resp) :
    (encode r).take 1 = [0x81] ∧ ((encode r).drop 5).take 1 = [0] := by
  -- the header's octets one by one: the first and the sixth are literals, whatever body follows
  have hdr (body : Bytes) :
      (encodeHeader r.header ++ body).take 1 = [0x81] ∧ ((encodeHeader r.header ++ body).drop 5).take 1 = [0] := by
    simp only [encodeHeader, putBE, List.cons_append, List.nil_append, List.take_succ_cons, List.take_zero,
      List.drop_succ_cons, List.drop_zero]
    exact ⟨rfl, rfl⟩
  exact hdr _

/-- what is written is what a client reads: every header field of every response whose fields fit their
    widths is recovered from the encoded octets, whatever follows them on the stream -/
theorem C11_header_roundtrip (r : Resp) (hr : r.header.inRange) (rest : Bytes) :
    parseRespHeader (encode r ++ rest) = r.header := parseRespHeader_encode_append r hr rest

/-- **the response stream stays parseable**: a client that reads 24 octets, then `body_length` more, cuts
    any concatenation of well-formed responses — of any number, to any requests — exactly at the response
    boundaries, so every response is found and correlated by its own header -/
theorem C11_client_framing (rs : List (Req × Resp)) (hwf : ∀ p ∈ rs, wellFormed p.1 p.2 = true)
    (hr : ∀ p ∈ rs, p.2.header.inRange) :
    clientSplit rs.length ((rs.map (fun p => encode p.2)).flatten) = rs.map (fun p => encode p.2) := by
  have h := clientSplit_responses (rs.map (·.2)) (by
    intro r hmem
    obtain ⟨p, hp, rfl⟩ := List.mem_map.mp hmem
    exact ⟨hr p hp, C11_frame_length p.1 p.2 (hwf p hp)⟩) rs.length (by simp)
  simp only [List.map_map] at h
  exact h

example : wellFormed (.get ⟨0x80, 0x0c, 1, 0, 0, 0, 1, 7, 0⟩ [65])
    (.get { opcode := 0x0c, opaq := 7, extrasLen := 4, keyLen := 1, bodyLen := 7, cas := 3 } 9 [65] [1, 2]) = true := by decide

/-! ## the tables of this property are the source's (regenerated from /repo on every run: `tools/gentables.py`) -/

/-- status codes and message texts (`cache/error.rs`), the two magic bytes (`protocol/binary.rs`) and the version string
    (`Cargo.toml` through `crate_version!`) of the model are those of the source as it is now -/
theorem C11_tables_are_the_sources :
    Holds Gen.errors (fun t => t = allErrors.map (fun e => (e.code, e.text))) ∧
    Holds Gen.magic (fun m =>
      headerValid { hdr0 with magic := m.1 } = true ∧ headerValid { hdr0 with magic := m.1 + 1 } = false ∧
      (encodeHeader { opcode := 0, opaq := 0 }).head? = some (UInt8.ofNat m.2)) ∧
    Holds Gen.version (fun v => v = VERSION) :=
  ⟨by decide, by decide, by decide⟩

/-! ## The reserved header field

Bytes 6–7 of a request header (the 'vbucket id') sit where a response header has its status. Nothing the server does or
answers depends on them. -/

/-- the same request with another reserved field -/
def Req.withVbucket (v : Nat) : Req → Req
  | .get h k => .get { h with vbucket := v } k
  | .delete h k => .delete { h with vbucket := v } k
  | .set h f e k x => .set { h with vbucket := v } f e k x
  | .append h k x => .append { h with vbucket := v } k x
  | .delta h d i e k => .delta { h with vbucket := v } d i e k
  | .headerOnly h => .headerOnly { h with vbucket := v }
  | .flush h e => .flush { h with vbucket := v } e
  | .tooLarge h => .tooLarge { h with vbucket := v }
  | .notSupported h => .notSupported { h with vbucket := v }

/-- parsing does not look at the reserved field: the same request comes out, carrying the other value -/
theorem parseBody_vbucket (h : ReqHeader) (body : Bytes) (v : Nat) :
    parseBody { h with vbucket := v } body = (parseBody h body).map (Req.withVbucket v) := by
  have hv : ∀ b, requestValid { h with vbucket := v } b = requestValid h b := fun _ => rfl
  have hl : valueLen { h with vbucket := v } = valueLen h := rfl
  unfold parseBody
  cases opGroup h.opcode <;>
    simp only [hv, hl, apply_ite (Option.map (Req.withVbucket v)), Option.map_none, Option.map_some, Req.withVbucket]

/-- **the reserved field of a request never reaches the store or the response**: for every store, clock and request, the
    state afterwards and the response (status, opaque, CAS, body — every field) are those of the same request with any other
    value in that field -/
theorem C11_reserved_field_ignored {σ : Type} (C : CacheOps σ) (s : σ) (now : Nat) (req : Req) (v : Nat) :
    handleRequest C s now (req.withVbucket v) = handleRequest C s now req := by
  cases req <;> rfl

/-- acceptance of a header does not depend on it either -/
theorem headerValid_vbucket (h : ReqHeader) (v : Nat) : headerValid { h with vbucket := v } = headerValid h := rfl

end Memc

#print axioms Memc.CacheError.onWire
#print axioms Memc.errorResp_wf
#print axioms Memc.plain_wf
#print axioms Memc.respond_wf
#print axioms Memc.C11_wellformed
#print axioms Memc.C11_frame_length
#print axioms Memc.C11_magic_and_datatype
#print axioms Memc.C11_header_roundtrip
#print axioms Memc.C11_client_framing
#print axioms Memc.C11_tables_are_the_sources
#print axioms Memc.parseBody_vbucket
#print axioms Memc.C11_reserved_field_ignored
#print axioms Memc.headerValid_vbucket

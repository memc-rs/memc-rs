import MemcVerif.Proofs.Ops
import MemcVerif.Proofs.Decimal
import MemcVerif.Proofs.Policy
import MemcVerif.Proofs.TablesTie
/-!
# C07 — counters: arithmetic, creation and error rules

For every store, clock, key, delta, initial value, request header (CAS 0 or the current one).
`+digits` values are accepted by the code's parser (Rust `u64::from_str`); the statements below are
about whatever `parseU64` accepts, and `C07_parse_*` say what that is.
-/
namespace Memc
open MemStore

theorem C07_text_matches_number (n : Nat) (h : n < U64) : parseU64 (toDec n) = some n := parseU64_toDec n h

/-- decimal digit strings (leading zeros allowed) below 2^64 are numbers -/
theorem C07_parse_decimal (ds : Bytes) (hne : ds ≠ []) (hd : ∀ b ∈ ds, isDigit b = true) (hv : valOf ds 0 < U64) :
    parseU64 ds = some (valOf ds 0) := parseU64_digits ds hne hd hv

/-- empty values and values containing any non-digit after an optional first `+`… are not numbers:
    here the common case of a first byte other than `+` -/
theorem C07_parse_rejects (b : UInt8) (t : Bytes) (hb : b ≠ 43) (h : ∃ x ∈ b :: t, isDigit x = false) :
    parseU64 [] = none ∧ parseU64 (b :: t) = none := ⟨rfl, parseU64_nondigit b t hb h⟩

/-- a decimal string of 2^64 or more is not a u64 (whatever parses is below 2^64) -/
theorem C07_parse_range (v : Bytes) (n : Nat) (h : parseU64 v = some n) : n < U64 := parseU64_lt v n h

/-- incr on a numeric item: stores and returns `(v + d) mod 2^64` as decimal text, keeps the flags -/
theorem C07_incr (s : MemStore) (now : Nat) (k : Key) (hd : Meta) (d i v : Nat) (x : Record)
    (h : s.vis now k = some x) (hp : parseU64 x.value = some v) (hc : hd.cas = 0 ∨ hd.cas = x.header.cas) :
    (applyOp s now (.delta k hd d i true)).2 = .counter ⟨s.casId, (v + d) % U64⟩ ∧
    (applyOp s now (.delta k hd d i true)).1.mem.lookup k
      = some ⟨⟨now, s.casId, x.header.flags, hd.ttl⟩, toDec ((v + d) % U64)⟩ ∧
    parseU64 (toDec ((v + d) % U64)) = some ((v + d) % U64) := by
  simp only [applyOp, Cmd.addDelta, memOps, get_vis_some h, hp, if_true]
  rw [set_current s now k _ x (vis_lookup h) hc]
  exact ⟨rfl, Mem.lookup_insert_self .., parseU64_toDec _ (Nat.mod_lt _ (by decide))⟩

/-- decr on a numeric item: `max (v - d) 0`, flags kept -/
theorem C07_decr (s : MemStore) (now : Nat) (k : Key) (hd : Meta) (d i v : Nat) (x : Record)
    (h : s.vis now k = some x) (hp : parseU64 x.value = some v) (hc : hd.cas = 0 ∨ hd.cas = x.header.cas) :
    (applyOp s now (.delta k hd d i false)).2 = .counter ⟨s.casId, if d > v then 0 else v - d⟩ ∧
    (applyOp s now (.delta k hd d i false)).1.mem.lookup k
      = some ⟨⟨now, s.casId, x.header.flags, hd.ttl⟩, toDec (if d > v then 0 else v - d)⟩ := by
  simp only [applyOp, Cmd.addDelta, memOps, get_vis_some h, hp, Bool.false_eq_true, if_false]
  rw [set_current s now k _ x (vis_lookup h) hc]
  exact ⟨rfl, Mem.lookup_insert_self ..⟩

/-- on a value that is not a number: 'non-numeric value', store unchanged -/
theorem C07_non_numeric (s : MemStore) (now : Nat) (k : Key) (hd : Meta) (d i : Nat) (inc : Bool) (x : Record)
    (h : s.vis now k = some x) (hp : parseU64 x.value = none) :
    applyOp s now (.delta k hd d i inc) = (s, .err .arithOnNonNumeric) := by
  simp only [applyOp, Cmd.addDelta, memOps, get_vis_some h, hp]

/-- on an absent key the item is created with the initial value, flags 0 and the request's expiration -/
theorem C07_create (s : MemStore) (now : Nat) (k : Key) (hd : Meta) (d i : Nat) (inc : Bool)
    (h : s.vis now k = none) (hexp : hd.ttl ≠ 0xffffffff) :
    (applyOp s now (.delta k hd d i inc)).2 = .counter ⟨s.casId, i⟩ ∧
    (applyOp s now (.delta k hd d i inc)).1.mem.lookup k = some ⟨⟨now, s.casId, 0, hd.ttl⟩, toDec i⟩ := by
  simp only [applyOp, Cmd.addDelta, memOps, get_vis_none h, if_pos hexp]
  rw [set_cas0 _ _ _ _ rfl]
  exact ⟨rfl, Mem.lookup_insert_self ..⟩

/-- … unless the expiration is 0xffffffff: 'not found', nothing created -/
theorem C07_no_create (s : MemStore) (now : Nat) (k : Key) (hd : Meta) (d i : Nat) (inc : Bool)
    (h : s.vis now k = none) (hexp : hd.ttl = 0xffffffff) :
    (applyOp s now (.delta k hd d i inc)).2 = .err .notFound ∧
    (applyOp s now (.delta k hd d i inc)).1.mem.lookup k = none := by
  simp only [applyOp, Cmd.addDelta, memOps, get_vis_none h, hexp, ne_eq, not_true, if_false]
  exact ⟨trivial, Mem.lookup_erase_self ..⟩

/-! ## Under the eviction policy

The counter rules do not depend on memory: whatever the limit (also one below a single record), the accounted usage and
the victims the request's own eviction takes, the policy never turns an incr/decr into a failure — it has no 'out of
memory' answer, and its eviction loop only removes items. -/

/-- **incr/decr on an absent key create the item under any memory limit** (unless the expiration field forbids it) -/
theorem C07_create_under_policy (p : Policy) (now : Nat) (k : Key) (hd : Meta) (d i : Nat) (inc : Bool)
    (h : p.inner.vis now k = none) (hexp : hd.ttl ≠ 0xffffffff) :
    (Cmd.addDelta polOps p now hd k d i inc).2 = .ok ⟨p.inner.casId, i⟩ ∧
    (Cmd.addDelta polOps p now hd k d i inc).1.inner.mem.lookup k = some ⟨⟨now, p.inner.casId, 0, hd.ttl⟩, toDec i⟩ := by
  simp only [Cmd.addDelta, polOps, Policy.get, get_vis_none h, if_pos hexp]
  rw [policy_set_cas0_eq _ now k _ rfl]
  exact ⟨rfl, (policy_set_cas0 _ now k _ rfl).2⟩

/-- **… and update a numeric item under any memory limit**: same result and stored text as without a policy, even when
    the request's own eviction takes the item between the read and the write -/
theorem C07_update_under_policy (p : Policy) (now : Nat) (k : Key) (hd : Meta) (d i v : Nat) (inc : Bool) (x : Record)
    (h : p.inner.vis now k = some x) (hp : parseU64 x.value = some v) (hc0 : hd.cas = 0) :
    let v' := if inc then (v + d) % U64 else if d > v then 0 else v - d
    (Cmd.addDelta polOps p now hd k d i inc).2 = .ok ⟨p.inner.casId, v'⟩ ∧
    (Cmd.addDelta polOps p now hd k d i inc).1.inner.mem.lookup k
      = some ⟨⟨now, p.inner.casId, x.header.flags, hd.ttl⟩, toDec v'⟩ := by
  intro v'
  simp only [Cmd.addDelta, polOps, Policy.get, get_vis_some h, hp]
  rw [policy_set_cas0_eq p now k ⟨{ hd with flags := x.header.flags }, toDec v'⟩ hc0]
  exact ⟨rfl, (policy_set_cas0 p now k _ hc0).2⟩

/-- … the two refusals do not depend on memory either: 'do not create' on an absent key and 'non-numeric' on a value that
    is not a number answer as without a policy and store nothing — the policy is not even asked to make room -/
theorem C07_no_create_under_policy (p : Policy) (now : Nat) (k : Key) (hd : Meta) (d i : Nat) (inc : Bool)
    (h : p.inner.vis now k = none) (hexp : hd.ttl = 0xffffffff) :
    (Cmd.addDelta polOps p now hd k d i inc).2 = .error .notFound ∧
    (Cmd.addDelta polOps p now hd k d i inc).1.usage = p.usage ∧
    (Cmd.addDelta polOps p now hd k d i inc).1.inner.mem.lookup k = none := by
  simp only [Cmd.addDelta, polOps, Policy.get, get_vis_none h, hexp, ne_eq, not_true, if_false]
  exact ⟨trivial, trivial, Mem.lookup_erase_self ..⟩

theorem C07_non_numeric_under_policy (p : Policy) (now : Nat) (k : Key) (hd : Meta) (d i : Nat) (inc : Bool) (x : Record)
    (h : p.inner.vis now k = some x) (hp : parseU64 x.value = none) :
    Cmd.addDelta polOps p now hd k d i inc = (p, .error .arithOnNonNumeric) := by
  simp only [Cmd.addDelta, polOps, Policy.get, get_vis_some h, hp]

/-- the creation rule and the arithmetic of `add_delta` as re-extracted from the source on this run (the expiration value
    tested before creating, `wrapping_add`, the saturating subtraction) are the model's -/
theorem C07_rules_are_the_sources :
    Holds Gen.deltaRules (fun r =>
      r.2.1 = 1 ∧ r.2.2.1 = 1 ∧ r.2.2.2 = 1 ∧
      deltaOut (Cmd.addDelta memOps MemStore.init 0 (Meta.new 0 0 r.1) [107] 1 5 true).2 = none ∧
      deltaOut (Cmd.addDelta memOps MemStore.init 0 (Meta.new 0 0 (r.1 - 1)) [107] 1 5 true).2 = some (1, 5) ∧
      deltaOut (Cmd.addDelta memOps (counterStore 18446744073709551615) 0 (Meta.new 0 0 0) [107] 1 5 true).2 = some (2, 0) ∧
      deltaOut (Cmd.addDelta memOps (counterStore 3) 0 (Meta.new 0 0 0) [107] 5 9 false).2 = some (2, 0)) :=
  by decide +kernel

example : parseU64 (toDec 18446744073709551615) = some 18446744073709551615 := by decide
example : parseU64 [43, 53] = some 5 := by decide            -- "+5": accepted by the code's parser
example : parseU64 [45, 49] = none ∧ parseU64 [32, 53] = none ∧ parseU64 [] = none := by decide

end Memc

#print axioms Memc.C07_text_matches_number
#print axioms Memc.C07_parse_decimal
#print axioms Memc.C07_parse_rejects
#print axioms Memc.C07_parse_range
#print axioms Memc.C07_incr
#print axioms Memc.C07_decr
#print axioms Memc.C07_non_numeric
#print axioms Memc.C07_create
#print axioms Memc.C07_no_create
#print axioms Memc.C07_create_under_policy
#print axioms Memc.C07_update_under_policy
#print axioms Memc.C07_no_create_under_policy
#print axioms Memc.C07_non_numeric_under_policy
#print axioms Memc.C07_rules_are_the_sources

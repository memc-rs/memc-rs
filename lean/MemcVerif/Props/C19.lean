import MemcVerif.Proofs.Handle
/-!
# C19 — quiet variants differ from loud ones only in what is sent back

Generic in the store (`C : CacheOps σ` arbitrary). `toQuiet` switches a request to the quiet opcode of
its command; the store after handling is identical, and the responses are related as the property says.
-/
namespace Memc

/-- quiet twin of a loud opcode (the eleven commands that have one) -/
def quietOf (op : Nat) : Nat :=
  if op = 0x00 then 0x09 else if op = 0x0c then 0x0d
  else if op = 0x01 then 0x11 else if op = 0x02 then 0x12 else if op = 0x03 then 0x13
  else if op = 0x04 then 0x14 else if op = 0x05 then 0x15 else if op = 0x06 then 0x16
  else if op = 0x08 then 0x18 else if op = 0x0e then 0x19 else if op = 0x0f then 0x1a else op

def Req.setOpcode (r : Req) (op : Nat) : Req :=
  match r with
  | .get h k => .get { h with opcode := op } k
  | .delete h k => .delete { h with opcode := op } k
  | .set h f e k v => .set { h with opcode := op } f e k v
  | .append h k v => .append { h with opcode := op } k v
  | .delta h d i e k => .delta { h with opcode := op } d i e k
  | .headerOnly h => .headerOnly { h with opcode := op }
  | .flush h e => .flush { h with opcode := op } e
  | .tooLarge h => .tooLarge { h with opcode := op }
  | .notSupported h => .notSupported { h with opcode := op }

def Req.toQuiet (r : Req) : Req := r.setOpcode (quietOf r.header.opcode)

/-- a loud request as the decoder produces it: the variant agrees with the opcode's command group -/
def LoudOK : Req → Prop
  | .get h _ => h.opcode = 0x00 ∨ h.opcode = 0x0c
  | .delete h _ => h.opcode = 0x04
  | .set h _ _ _ _ => h.opcode = 0x01 ∨ h.opcode = 0x02 ∨ h.opcode = 0x03
  | .append h _ _ => h.opcode = 0x0e ∨ h.opcode = 0x0f
  | .delta h _ _ _ _ => h.opcode = 0x05 ∨ h.opcode = 0x06
  | .flush h _ => h.opcode = 0x08
  | _ => False

def Resp.setOpcode (r : Resp) (op : Nat) : Resp :=
  match r with
  | .error h t => .error { h with opcode := op } t
  | .get h f k v => .get { h with opcode := op } f k v
  | .plain h => .plain { h with opcode := op }
  | .quit h => .quit { h with opcode := op }
  | .version h v => .version { h with opcode := op } v
  | .counter h v => .counter { h with opcode := op } v

def Resp.isError : Resp → Bool
  | .error _ _ => true
  | _ => false

def Resp.isMiss : Resp → Bool
  | .error h _ => h.status = CacheError.notFound.code
  | _ => false

/-- what the quiet twin must answer, given what the loud command answered -/
def quietExpect (req : Req) (loud : Option Resp) : Option Resp :=
  match loud with
  | none => none
  | some r =>
    let r' := r.setOpcode (quietOf req.header.opcode)
    match req with
    | .get _ _ => if r.isMiss then none else some r'          -- quiet get: silent on a miss, same payload on a hit
    | _ => if r.isError then some r' else none                 -- quiet mutation: only errors, identical apart from the opcode

/-- the quiet twin stands for the same store command -/
theorem reqOp_toQuiet (req : Req) (h : LoudOK req) : reqOp req.toQuiet = reqOp req := by
  cases req with
  | set hd f e key value =>
    have hq : isSetOp (quietOf hd.opcode) = isSetOp hd.opcode ∧ isAddOp (quietOf hd.opcode) = isAddOp hd.opcode := by
      rcases h with h | h | h <;> rw [h] <;> decide
    dsimp only [Req.toQuiet, Req.setOpcode, reqOp, Req.header]
    simp only [hq]
    rfl
  | append hd key value =>
    have hq : isAppendOp (quietOf hd.opcode) = isAppendOp hd.opcode := by
      rcases h with h | h <;> rw [h] <;> decide
    dsimp only [Req.toQuiet, Req.setOpcode, reqOp, Req.header]
    simp only [hq]
    rfl
  | delta hd d i e key =>
    have hq : isIncrOp (quietOf hd.opcode) = isIncrOp hd.opcode := by
      rcases h with h | h <;> rw [h] <;> decide
    dsimp only [Req.toQuiet, Req.setOpcode, reqOp, Req.header]
    simp only [hq]
  | _ => rfl

theorem intoQuietGet_setOpcode (r : Resp) (op : Nat) :
    intoQuietGet (r.setOpcode op) = if r.isMiss then none else some (r.setOpcode op) := by
  cases r with
  | error hd t => simp only [Resp.setOpcode, intoQuietGet, Resp.isMiss, decide_eq_true_eq]
  | _ => rfl

theorem intoQuietMutation_setOpcode (r : Resp) (op : Nat) :
    intoQuietMutation (r.setOpcode op) = if r.isError then some (r.setOpcode op) else none := by
  cases r <;> rfl

/-- the response builder on the quiet twin: the loud answer with the twin's opcode, passed through the quiet filter.
    In each case the opcode decides that the filter applies (and, for a get, leaves `getKeyOp` as it was); what is
    filtered is the loud response with the other opcode, whatever the result -/
theorem respond_toQuiet (req : Req) (res : Res) (h : LoudOK req) :
    respond req.toQuiet res = quietExpect req (respond req res) := by
  cases req with
  | get hd key =>
    have hq : quietGetOp hd.opcode = false ∧ quietGetOp (quietOf hd.opcode) = true ∧
        getKeyOp (quietOf hd.opcode) = getKeyOp hd.opcode := by
      rcases h with h | h <;> rw [h] <;> decide
    dsimp only [Req.toQuiet, Req.setOpcode, Req.header, respond, quietExpect]
    simp only [hq, if_true, Bool.false_eq_true, if_false]
    rw [← intoQuietGet_setOpcode]
    cases res <;> rfl
  | delete hd key =>
    have hq : quietDeleteOp hd.opcode = false ∧ quietDeleteOp (quietOf hd.opcode) = true := by
      rw [show hd.opcode = 0x04 from h]; decide
    dsimp only [Req.toQuiet, Req.setOpcode, Req.header, respond, quietExpect]
    simp only [hq, if_true, Bool.false_eq_true, if_false]
    rw [← intoQuietMutation_setOpcode]
    cases res <;> rfl
  | set hd f e key value =>
    have hq : quietSetOp hd.opcode = false ∧ quietSetOp (quietOf hd.opcode) = true := by
      rcases h with h | h | h <;> rw [h] <;> decide
    dsimp only [Req.toQuiet, Req.setOpcode, Req.header, respond, quietExpect]
    simp only [hq, if_true, Bool.false_eq_true, if_false]
    rw [← intoQuietMutation_setOpcode]
    cases res <;> rfl
  | append hd key value =>
    have hq : quietAppendOp hd.opcode = false ∧ quietAppendOp (quietOf hd.opcode) = true := by
      rcases h with h | h <;> rw [h] <;> decide
    dsimp only [Req.toQuiet, Req.setOpcode, Req.header, respond, quietExpect]
    simp only [hq, if_true, Bool.false_eq_true, if_false]
    rw [← intoQuietMutation_setOpcode]
    cases res <;> rfl
  | delta hd d i e key =>
    have hq : quietDeltaOp hd.opcode = false ∧ quietDeltaOp (quietOf hd.opcode) = true := by
      rcases h with h | h <;> rw [h] <;> decide
    dsimp only [Req.toQuiet, Req.setOpcode, Req.header, respond, quietExpect]
    simp only [hq, if_true, Bool.false_eq_true, if_false]
    rw [← intoQuietMutation_setOpcode]
    cases res <;> rfl
  | flush hd e =>
    have hq : quietFlushOp hd.opcode = false ∧ quietFlushOp (quietOf hd.opcode) = true := by
      rw [show hd.opcode = 0x08 from h]; decide
    dsimp only [Req.toQuiet, Req.setOpcode, Req.header, respond, quietExpect]
    simp only [hq, if_true, Bool.false_eq_true, if_false]
    rfl
  | headerOnly hd => exact h.elim
  | tooLarge hd => exact h.elim
  | notSupported hd => exact h.elim

variable {σ : Type} (C : CacheOps σ)

/-- **same effect, related responses** for one request in any store -/
theorem C19_step (s : σ) (now : Nat) (req : Req) (h : LoudOK req) :
    (handleRequest C s now req.toQuiet).1 = (handleRequest C s now req).1 ∧
    (handleRequest C s now req.toQuiet).2 = quietExpect req (handleRequest C s now req).2 := by
  rw [handleRequest_execOp, handleRequest_execOp, reqOp_toQuiet req h]
  exact ⟨rfl, respond_toQuiet req _ h⟩

/-- run a list of requests, collecting the responses -/
def runReqs (s : σ) : List (Nat × Req) → σ × List (Option Resp)
  | [] => (s, [])
  | (now, r) :: rest =>
    let x := handleRequest C s now r
    let y := runReqs x.1 rest
    (y.1, x.2 :: y.2)

/-- switch the positions marked `true` to their quiet variants -/
def toggle : List (Nat × Req) → List Bool → List (Nat × Req)
  | (now, r) :: rest, b :: bs => (now, if b then r.toQuiet else r) :: toggle rest bs
  | l, _ => l

/-- **any subset of positions switched to quiet leaves the final store identical**, for command
    sequences of any length -/
theorem C19_histories (s : σ) (reqs : List (Nat × Req)) (mask : List Bool) (h : ∀ e ∈ reqs, LoudOK e.2) :
    (runReqs C s (toggle reqs mask)).1 = (runReqs C s reqs).1 := by
  induction reqs generalizing s mask with
  | nil => cases mask <;> rfl
  | cons e rest ih =>
    obtain ⟨now, r⟩ := e
    cases mask with
    | nil => rfl
    | cons b bs =>
      have hrest : ∀ e ∈ rest, LoudOK e.2 := fun e he => h e (List.mem_cons_of_mem _ he)
      cases b with
      | false => exact ih _ bs hrest
      | true =>
        show (runReqs C (handleRequest C s now r.toQuiet).1 (toggle rest bs)).1 = _
        rw [(C19_step C s now r (h _ (List.mem_cons_self ..))).1]
        exact ih _ bs hrest

example : LoudOK (.set ⟨0x80, 0x01, 1, 8, 0, 0, 10, 7, 0⟩ 0 0 [65] [66]) := .inl rfl

end Memc

#print axioms Memc.reqOp_toQuiet
#print axioms Memc.intoQuietGet_setOpcode
#print axioms Memc.intoQuietMutation_setOpcode
#print axioms Memc.respond_toQuiet
#print axioms Memc.C19_step
#print axioms Memc.C19_histories

import MemcVerif.Proofs.Policy
import MemcVerif.Proofs.Store
/-!
# C15 — no eviction without memory pressure (accounting tracks content)

The full statement is **false** of the code and of the model: the witnesses below (kernel-evaluated, `decide`)
are the recorded findings, one per drift class. Each is a concrete history in which the stored bytes stay
far below the limit while the accounted usage drifts away from them; `C15_drift_evicts_live_key` shows the
user-visible consequence (an unrelated live key is evicted although 68 bytes are stored under a limit of
1000). `C15_partial_*` is the part that holds: fresh-key stores without pressure, deletes, and reads of live or
absent keys keep the accounting exact (`C15_partial_history`: for every history made of those, of any length, the
counter is a function of the content, nothing else is lost, and the counter is 0 whenever the store is empty).
-/
namespace Memc

def rec10 : Record := Record.new [1, 2, 3, 4, 5, 6, 7, 8, 9, 10] 0 0 0     -- 34 bytes

/-- the accounting equals the content -/
def Policy.Exact (p : Policy) : Prop := p.usage = p.inner.mem.bytes

/-! ## recorded findings: the statement fails -/

/-- overwriting a key does not give back the old record's bytes -/
theorem C15_overwrite_drifts :
    let p := ((Policy.init 1000).set 0 [1] rec10).1
    let q := (p.set 0 [1] rec10).1
    p.usage = 34 ∧ p.inner.mem.bytes = 34 ∧ q.inner.mem.bytes = 34 ∧ q.usage = 68 := by decide

/-- a rejected CAS store is accounted although nothing was stored -/
theorem C15_failed_cas_drifts :
    let p := ((Policy.init 1000).set 0 [1] rec10).1
    let q := (p.set 0 [1] (Record.new [9] 77 0 0)).1
    (p.set 0 [1] (Record.new [9] 77 0 0)).2.toBool = false ∧ q.inner.mem.bytes = 34 ∧ q.usage = 59 := by decide

/-- flush empties the store without touching the accounting -/
theorem C15_flush_drifts :
    let p := ((Policy.init 1000).set 0 [1] rec10).1
    (p.flush 0 0).inner.mem.bytes = 0 ∧ (p.flush 0 0).usage = 34 := by decide

/-- lazy expiry removes the record behind the policy's back -/
theorem C15_expiry_drifts :
    let p := ((Policy.init 1000).set 0 [1] (Record.new [1, 2] 0 0 5)).1
    (p.get 9 [1]).2.toBool = false ∧ (p.get 9 [1]).1.inner.mem.bytes = 0 ∧ (p.get 9 [1]).1.usage = 26 := by decide

/-- append (get then set of the whole new record) accounts the old bytes twice -/
theorem C15_rmw_drifts :
    let p := ((Policy.init 1000).set 0 [1] rec10).1
    let q := (Cmd.append polOps p 0 [1] (Record.new [11] 0 0 0)).1
    q.inner.mem.bytes = 35 ∧ q.usage = 69 := by decide

/-- the consequence users see: 30 overwrites of a 10-byte value under a limit of 1000 evict an unrelated
    live key (`[7]`) although only 68 bytes are stored -/
theorem C15_drift_evicts_live_key :
    let p0 := ((Policy.init 1000).set 0 [7] rec10).1
    let p := (List.range 28).foldl (fun p _ => (p.set 0 [1] rec10).1) p0
    let q := ({ p with tape := [[7]] }.set 0 [1] rec10).1
    p.inner.mem.bytes = 68 ∧ p.usage = 986 ∧ q.bad = false ∧ q.inner.mem.lookup [7] = none ∧ q.inner.mem.bytes = 34 := by
  decide +kernel

/-- a store to a fresh key without memory pressure keeps the accounting exact and evicts nothing -/
theorem C15_partial_fresh_store (p : Policy) (now : Nat) (k : Key) (r : Record)
    (hex : p.Exact) (habs : p.inner.mem.lookup k = none) (hcas : r.header.cas = 0)
    (hroom : p.usage + r.len ≤ p.limit) (hnw : p.usage + r.len < U64) (htape : p.tape = []) :
    (p.set now k r).1.Exact ∧ (p.set now k r).1.bad = p.bad ∧
    ∀ k', k' ≠ k → (p.set now k r).1.inner.mem.lookup k' = p.inner.mem.lookup k' := by
  rw [Policy.set_roomy p now k r htape hroom hnw, MemStore.set_cas0 _ _ _ _ hcas]
  refine ⟨?_, rfl, fun k' hne => Mem.lookup_insert_ne _ _ hne⟩
  show p.usage + r.len = (p.inner.mem.insert k (MemStore.stamp r p.inner.casId now)).bytes
  rw [Mem.insert, Mem.bytes_cons, Mem.erase_absent _ _ habs, hex]
  exact Nat.add_comm ..

/-- reading a live key changes nothing at all -/
theorem C15_partial_live_get (p : Policy) (now : Nat) (k : Key) (x : Record) (h : p.inner.vis now k = some x) :
    (p.get now k).1 = p ∧ (p.get now k).2 = .ok x := by
  unfold Policy.get
  rw [MemStore.get_vis_some h]; exact ⟨rfl, rfl⟩

/-- a delete gives back exactly what it removes -/
theorem C15_partial_delete (p : Policy) (k : Key) (cas : Nat) (hex : p.Exact) (hwf : p.inner.mem.WF) (hlt : p.usage < U64) :
    (p.delete k cas).1.Exact ∧ (p.delete k cas).1.bad = p.bad ∧ (p.delete k cas).1.tape = p.tape ∧
    (p.delete k cas).1.limit = p.limit ∧ (p.delete k cas).1.usage ≤ p.usage ∧
    ∀ k', k' ≠ k → (p.delete k cas).1.inner.mem.lookup k' = p.inner.mem.lookup k' := by
  unfold Policy.delete Policy.Exact at *
  rcases MemStore.delete_cases p.inner k cas with ⟨e, h⟩ | ⟨r, hl, h⟩ <;> rw [h]
  · exact ⟨hex, rfl, rfl, rfl, Nat.le_refl _, fun _ _ => rfl⟩
  · -- with one entry per key, exactly `r.len` bytes leave the store
    have hu : p.usage = (p.inner.mem.erase k).bytes + r.len :=
      hex.trans (Mem.bytes_erase_exact p.inner.mem k r hwf hl).symm
    have hw : wsub p.usage r.len = (p.inner.mem.erase k).bytes := by
      rw [wsub_exact (hu ▸ Nat.le_add_left ..) hlt, hu, Nat.add_sub_cancel]
    have hle : wsub p.usage r.len ≤ p.usage := by rw [hw, hu]; exact Nat.le_add_right ..
    exact ⟨hw, rfl, rfl, rfl, hle, fun k' hne => Mem.lookup_erase_ne _ hne⟩

/-- the commands that cannot make the accounting drift -/
inductive POp
  | set (k : Key) (r : Record)
  | get (k : Key)
  | delete (k : Key) (cas : Nat)

def POp.key : POp → Key
  | .set k _ | .get k | .delete k _ => k

def Policy.apply (p : Policy) (now : Nat) : POp → Policy
  | .set k r => (p.set now k r).1
  | .get k => (p.get now k).1
  | .delete k cas => (p.delete k cas).1

/-- no memory pressure and nothing that bypasses the accounting: the store is of a fresh key with CAS 0 and fits
    under the limit; the read is of a live or an absent key; deletes are unrestricted -/
def Policy.driftFree (p : Policy) (now : Nat) : POp → Bool
  | .set k r => p.inner.mem.lookup k == none && r.header.cas == 0 && decide (p.usage + r.len ≤ p.limit)
  | .get k => (p.inner.vis now k).isSome || p.inner.mem.lookup k == none
  | .delete _ _ => true

def Policy.driftFreeRun (p : Policy) : List (Nat × POp) → Bool
  | [] => true
  | (now, op) :: rest => p.driftFree now op && (p.apply now op).driftFreeRun rest

def Policy.runP (p : Policy) : List (Nat × POp) → Policy
  | [] => p
  | (now, op) :: rest => (p.apply now op).runP rest

/-- what is carried along a drift-free history -/
structure Policy.Good (p : Policy) : Prop where
  exact : p.Exact
  wf : p.inner.mem.WF
  tape : p.tape = []
  room : p.usage ≤ p.limit
  lt : p.limit < U64

theorem C15_partial_step (p : Policy) (now : Nat) (op : POp) (hg : p.Good) (hd : p.driftFree now op = true) :
    (p.apply now op).Good ∧ (p.apply now op).bad = p.bad ∧
    ∀ k', k' ≠ op.key → (p.apply now op).inner.mem.lookup k' = p.inner.mem.lookup k' := by
  cases op with
  | set k r =>
    simp only [Policy.driftFree, Bool.and_eq_true, beq_iff_eq, decide_eq_true_eq] at hd
    obtain ⟨⟨habs, hcas⟩, hroom⟩ := hd
    have hnw : p.usage + r.len < U64 := Nat.lt_of_le_of_lt hroom hg.lt
    obtain ⟨h1, _, h3⟩ := C15_partial_fresh_store p now k r hg.exact habs hcas hroom hnw hg.tape
    simp only [Policy.apply, Policy.set_roomy p now k r hg.tape hroom hnw, true_and] at h1 h3 ⊢
    exact ⟨⟨h1, MemStore.WF_set _ _ _ _ hg.wf, hg.tape, hroom, hg.lt⟩, h3⟩
  | get k =>
    have hsame : (p.get now k).1 = p := by
      simp only [Policy.driftFree, Bool.or_eq_true, beq_iff_eq, Option.isSome_iff_exists] at hd
      rcases hd with ⟨x, hx⟩ | habs
      · exact (C15_partial_live_get p now k x hx).1
      · rw [Policy.get, MemStore.get_absent now habs]
    simp only [Policy.apply, hsame, implies_true, and_true]
    exact hg
  | delete k cas =>
    have hlt : p.usage < U64 := Nat.lt_of_le_of_lt hg.room hg.lt
    obtain ⟨hex, hbad, htape, hlim, hle, hframe⟩ := C15_partial_delete p k cas hg.exact hg.wf hlt
    have hwf : (p.delete k cas).1.inner.mem.WF := by
      rw [Policy.delete_eq]; exact MemStore.WF_delete _ _ _ hg.wf
    dsimp only [Policy.apply]
    exact ⟨⟨hex, hwf, htape.trans hg.tape, hlim ▸ Nat.le_trans hle hg.room, hlim ▸ hg.lt⟩, hbad, hframe⟩

/-- **C15, the part that holds**: along every history of stores of fresh keys that fit, deletes and reads of live or
    absent keys — of any length, at any clock readings — the counter equals the bytes stored, nothing is evicted,
    and keys the history does not address keep their records -/
theorem C15_partial_history (p : Policy) (h : List (Nat × POp)) (hg : p.Good) (hd : p.driftFreeRun h = true) :
    (p.runP h).Good ∧ (p.runP h).bad = p.bad ∧
    ∀ k', (∀ e ∈ h, e.2.key ≠ k') → (p.runP h).inner.mem.lookup k' = p.inner.mem.lookup k' := by
  induction h generalizing p with
  | nil => exact ⟨hg, rfl, fun _ _ => rfl⟩
  | cons e rest ih =>
    obtain ⟨now, op⟩ := e
    simp only [Policy.driftFreeRun, Bool.and_eq_true] at hd
    obtain ⟨hd1, hd2⟩ := hd
    obtain ⟨g1, b1, l1⟩ := C15_partial_step p now op hg hd1
    obtain ⟨g2, b2, l2⟩ := ih (p.apply now op) g1 hd2
    refine ⟨g2, b2.trans b1, fun k' hk' => ?_⟩
    exact (l2 k' fun e he => hk' e (List.mem_cons_of_mem _ he)).trans
      (l1 k' (hk' (now, op) (List.mem_cons_self ..)).symm)

/-- "returns to its initial value whenever the store returns to empty" — along drift-free histories -/
theorem C15_partial_empty_means_zero (p : Policy) (h : List (Nat × POp)) (hg : p.Good) (hd : p.driftFreeRun h = true)
    (hempty : (p.runP h).inner.mem = []) : (p.runP h).usage = 0 := by
  rw [(C15_partial_history p h hg hd).1.exact, hempty]; rfl

/-- the premises are met: an empty policy is `Good`, and a store / read / delete / store history is drift-free -/
example : (Policy.init 1000).Good ∧
    (Policy.init 1000).driftFreeRun [(0, .set [1] rec10), (1, .get [1]), (2, .get [9]), (3, .delete [1] 0), (4, .set [1] rec10)] = true := by
  refine ⟨⟨rfl, trivial, rfl, by decide, by decide⟩, ?_⟩
  decide

end Memc

#print axioms Memc.C15_overwrite_drifts
#print axioms Memc.C15_failed_cas_drifts
#print axioms Memc.C15_flush_drifts
#print axioms Memc.C15_expiry_drifts
#print axioms Memc.C15_rmw_drifts
#print axioms Memc.C15_drift_evicts_live_key
#print axioms Memc.Mem.erase_absent
#print axioms Memc.C15_partial_fresh_store
#print axioms Memc.C15_partial_live_get
#print axioms Memc.C15_partial_delete
#print axioms Memc.C15_partial_step
#print axioms Memc.C15_partial_history
#print axioms Memc.C15_partial_empty_means_zero

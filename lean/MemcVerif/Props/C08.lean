import MemcVerif.Props.C05
import MemcVerif.Proofs.Policy
/-!
# C08 — delete and flush remove exactly what they should
-/
namespace Memc
open MemStore

/-- delete: removes exactly the addressed key; 'not found' when absent; 'key exists' and no effect on a
    CAS that is neither 0 nor current -/
theorem C08_delete_exact (s : MemStore) (k : Key) (cas : Nat) :
    (∀ k', k' ≠ k → (s.delete k cas).1.mem.lookup k' = s.mem.lookup k') ∧
    (s.mem.lookup k = none → s.delete k cas = (s, .error .notFound)) ∧
    (∀ x, s.mem.lookup k = some x → (cas = 0 ∨ x.header.cas = cas) →
        (s.delete k cas).2 = .ok x ∧ (s.delete k cas).1.mem.lookup k = none) ∧
    (∀ x, s.mem.lookup k = some x → ¬ (cas = 0 ∨ x.header.cas = cas) → s.delete k cas = (s, .error .keyExists)) := by
  refine ⟨fun k' h => delete_lookup_ne s cas h, delete_absent s k cas, ?_, fun x hl h => delete_mismatch s k cas x hl h⟩
  intro x hl h; rw [delete_ok s k cas x hl h]; exact ⟨rfl, Mem.lookup_erase_self ..⟩

/-- after a delete the key is invisible at every time, and stays so over any history without a store to it -/
theorem C08_deleted_stays_gone (s : MemStore) (k : Key) (cas : Nat) (x : Record) (now : Nat) (h : History)
    (hl : s.mem.lookup k = some x) (hc : cas = 0 ∨ x.header.cas = cas)
    (hno : ∀ e ∈ h, ¬ (e.2.key = some k ∧ e.2.stores = true)) (hmono : List.Pairwise (· ≤ ·) (now :: h.map (·.1)))
    (t' : Nat) (hle : ∀ e ∈ h, e.1 ≤ t') (htt : now ≤ t') :
    (runOps (s.delete k cas).1 h).vis t' k = none := by
  apply C05_never_visible_again k h _ now _ hno hmono t' hle htt
  rw [delete_ok s k cas x hl hc, vis_eq_none_iff, Mem.lookup_erase_self]
  exact fun _ h => nomatch h

/-- immediate flush: every item stored before is unretrievable at every time -/
theorem C08_flush_now (s : MemStore) (now : Nat) (k : Key) (t : Nat) : (s.flush now 0).vis t k = none := by
  simp [vis_def, flush_lookup]

/-- delayed flush: every item stored before is unretrievable from `now + n` on at the latest -/
theorem C08_flush_delay (s : MemStore) (now n : Nat) (hn : n > 0) (k : Key) (t : Nat) (ht : now + n ≤ t) :
    (s.flush now n).vis t k = none :=
  flush_vis_none hn fun _ _ => .inr ht

/-- … and stays unretrievable over any later history (monotone clock) until it is stored again -/
theorem C08_flushed_stays_gone (s : MemStore) (now n : Nat) (k : Key) (h : History) (t0 : Nat) (ht0 : now + n ≤ t0)
    (hno : ∀ e ∈ h, ¬ (e.2.key = some k ∧ e.2.stores = true)) (hmono : List.Pairwise (· ≤ ·) (t0 :: h.map (·.1)))
    (t' : Nat) (hle : ∀ e ∈ h, e.1 ≤ t') (htt : t0 ≤ t') :
    (runOps (s.flush now n) h).vis t' k = none := by
  apply C05_never_visible_again k h _ t0 _ hno hmono t' hle htt
  cases n with
  | zero => exact C08_flush_now s now k t0
  | succ n => exact C08_flush_delay s now (n + 1) (Nat.succ_pos n) k t0 ht0

/-- a flush never makes anything *more* visible: no deadline moves later -/
theorem C08_flush_only_shortens (s : MemStore) (now n : Nat) (k : Key) (t : Nat) (h : s.vis t k = none) :
    (s.flush now n).vis t k = none := by
  cases n with
  | zero => exact C08_flush_now s now k t
  | succ n => exact flush_vis_none (Nat.succ_pos n) fun x hx => .inl (vis_eq_none_iff.mp h x hx)

/-- items stored after a flush are not affected by it: the store leaves exactly the record it would
    leave in any other state (C01_read_your_writes holds for every state, flushed ones included) -/
theorem C08_later_stores_unaffected (s : MemStore) (now n t1 : Nat) (k : Key) (v : Bytes) (f ttl : Nat) (t : Nat)
    (hlive : ttl = 0 ∨ t < t1 + ttl) :
    (((s.flush now n).set t1 k (Record.new v 0 f ttl)).1.get t k).2
      = .ok ⟨⟨t1, (s.flush now n).casId, f, ttl⟩, v⟩ := by
  rw [set_cas0 _ _ _ _ rfl]
  exact congrArg Prod.snd (get_live (Mem.lookup_insert_self ..) (stamp_live (r := Record.new v 0 f ttl) _ hlive))

example : ((⟨[([1], ⟨⟨0, 1, 0, 0⟩, [65]⟩), ([2], ⟨⟨3, 2, 0, 50⟩, [66]⟩)], 3⟩ : MemStore).flush 10 5).vis 14 [1]
    = some ⟨⟨10, 1, 0, 5⟩, [65]⟩ := by decide

/-! ## Behind the eviction policy -/

/-- delete behind the policy is the store's delete: the same answer, the same keys removed, the other keys untouched; the
    accounting gives back exactly the removed record's bytes and is untouched by a refusal -/
theorem C08_delete_under_policy (p : Policy) (k : Key) (cas : Nat) :
    (p.delete k cas).2 = (p.inner.delete k cas).2 ∧
    (p.delete k cas).1.inner = (p.inner.delete k cas).1 ∧
    (∀ x, (p.inner.delete k cas).2 = .ok x → (p.delete k cas).1.usage = wsub p.usage x.len) ∧
    (∀ e, (p.inner.delete k cas).2 = .error e → (p.delete k cas).1.usage = p.usage) := by
  rw [Policy.delete_eq]
  exact ⟨rfl, rfl, fun x h => by rw [h], fun e h => by rw [h]⟩

/-- flush behind the policy is the store's flush -/
theorem C08_flush_under_policy (p : Policy) (now n : Nat) (k : Key) (t : Nat) :
    (p.flush now n).inner = p.inner.flush now n ∧
    (n = 0 → (p.flush now n).inner.vis t k = none) := by
  refine ⟨rfl, ?_⟩
  intro hn; subst hn
  exact C08_flush_now p.inner now k t

end Memc

#print axioms Memc.C08_delete_exact
#print axioms Memc.C08_deleted_stays_gone
#print axioms Memc.C08_flush_now
#print axioms Memc.C08_flush_delay
#print axioms Memc.C08_flushed_stays_gone
#print axioms Memc.C08_flush_only_shortens
#print axioms Memc.C08_later_stores_unaffected
#print axioms Memc.C08_delete_under_policy
#print axioms Memc.C08_flush_under_policy

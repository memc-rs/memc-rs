import MemcVerif.Proofs.Policy
import MemcVerif.Proofs.PolConc
import MemcVerif.Proofs.PolSeq
/-!
# C14 — random eviction keeps stored bytes within the memory limit

For every limit (including limits below one record), every store state, every record size and **every
victim choice** (`tape` is universally quantified; `bad = false` says the choices were ones the loop could
make and that it ran to completion). Counter arithmetic does not wrap (`usage + len < 2^64`).

The concurrent clause is stated over the micro-step model `Model/PolConc` (every atomic operation of
`RandomPolicy::set`/`delete` is one step; a schedule names the thread that moves and the victim `remove_if`
removed). As stated in the property it is FALSE for the code: the empty-store reset subtracts a stale local
copy (`C14_racy_reset_breaks_bound`, a three-store witness; recorded finding K-C14-reset-race). It is proved
for every schedule in which every reset is quiet — no other call in flight, counter unmoved since the local
copy was taken (`C14_concurrent_partial`), for any number of threads, programs and steps.
-/
namespace Memc

/-- accounted usage covers the stored bytes plus `pending` bytes of a store in progress -/
def Policy.Covers (p : Policy) (pending : Nat) : Prop := p.inner.mem.bytes + pending ≤ p.usage ∧ p.usage < U64

/-- taking a stored record out and its bytes off the counter keeps the cover -/
theorem Policy.Covers.erase {p : Policy} {pending : Nat} (hc : p.Covers pending) {k : Key} {r : Record}
    (hl : p.inner.mem.lookup k = some r) :
    Policy.Covers { p with inner := { p.inner with mem := p.inner.mem.erase k }, usage := wsub p.usage r.len } pending := by
  have hsum : (p.inner.mem.erase k).bytes + pending + r.len ≤ p.usage :=
    Nat.add_right_comm .. ▸ Nat.le_trans (Nat.add_le_add_right (Mem.bytes_erase_lookup p.inner.mem k r hl) pending) hc.1
  refine ⟨?_, wsub_lt _ _⟩
  show (p.inner.mem.erase k).bytes + pending ≤ wsub p.usage r.len
  rw [wsub_exact (Nat.le_trans (Nat.le_add_left ..) hsum) hc.2]
  exact Nat.le_sub_of_add_le hsum

/-- the eviction loop: preserves coverage of the pending record, and on regular completion either the
    accounted usage is within the limit or the store was emptied and only the pending record is accounted -/
theorem evictLoop_spec (value : Nat) (tape : List Key) (p : Policy) (u : Nat)
    (hu : u = p.usage) (hc : p.Covers value) :
    (Policy.evictLoop value tape p u).Covers value ∧
    (Policy.evictLoop value tape p u).limit = p.limit ∧
    ((Policy.evictLoop value tape p u).bad = false →
      (Policy.evictLoop value tape p u).usage ≤ p.limit ∨
      ((Policy.evictLoop value tape p u).inner.mem.bytes = 0 ∧ (Policy.evictLoop value tape p u).usage = value)) := by
  fun_induction Policy.evictLoop value tape p u with
  | case1 tape p u _ he =>
    subst hu
    have hb : p.inner.mem.bytes = 0 := Mem.bytes_of_length_zero _ he
    have hv : wsub p.usage (wsub p.usage value) = value :=
      wsub_wsub_cancel (Nat.le_trans (Nat.le_add_left ..) hc.1) hc.2
    refine ⟨⟨?_, wsub_lt _ _⟩, rfl, fun _ => .inr ⟨hb, hv⟩⟩
    show p.inner.mem.bytes + value ≤ wsub p.usage (wsub p.usage value)
    rw [hv, hb, Nat.zero_add]
    exact Nat.le_refl _
  | case2 | case3 => exact ⟨hc, rfl, fun hbad => nomatch hbad⟩
  | case4 p u _ _ v rest r hl u' ih => exact ih rfl (hc.erase hl)
  | case5 tape p u hg => exact ⟨hc, rfl, fun _ => .inl (hu ▸ Nat.not_lt.mp hg)⟩

/-- **C14 sequential bound**: after a store of a record of `r.len` bytes, for every victim choice, the
    bytes stored are at most max(limit, r.len) ≤ limit + the record just written; the accounting still
    covers the content -/
theorem C14_sequential (p : Policy) (now : Nat) (k : Key) (r : Record)
    (hc : p.Covers 0) (hnw : p.usage + r.len < U64)
    (hok : (p.set now k r).1.bad = false) :
    (p.set now k r).1.inner.mem.bytes ≤ max p.limit r.len ∧ (p.set now k r).1.Covers 0 := by
  dsimp only [Policy.set, Policy.incrMemUsage] at hok ⊢
  have hc0 : Policy.Covers { p with usage := wadd p.usage r.len } r.len := by
    rw [wadd_exact hnw]; exact ⟨Nat.add_le_add_right hc.1 r.len, hnw⟩
  obtain ⟨⟨h1, hlt⟩, _, h3⟩ := evictLoop_spec r.len p.tape _ _ rfl hc0
  -- `q`: the state the loop leaves, before `store.set` adds at most `r.len` bytes
  generalize Policy.evictLoop r.len p.tape _ _ = q at *
  have hset := MemStore.set_bytes_le q.inner now k r
  have hcov : (q.inner.set now k r).1.mem.bytes ≤ q.usage := Nat.le_trans hset (Nat.add_comm .. ▸ h1)
  refine ⟨?_, Nat.le_trans (Nat.le_of_eq (Nat.add_zero _)) hcov, hlt⟩
  rcases h3 hok with hle | ⟨hz, _⟩
  · exact Nat.le_trans hcov (Nat.le_trans hle (Nat.le_max_left ..))
  · exact Nat.le_trans hset (hz ▸ Nat.le_max_right ..)

/-- the other policy calls never raise the byte total above the accounting -/
theorem C14_covers_delete (p : Policy) (k : Key) (cas : Nat) (hc : p.Covers 0) : (p.delete k cas).1.Covers 0 := by
  unfold Policy.delete
  rcases MemStore.delete_cases p.inner k cas with ⟨e, h⟩ | ⟨r, hl, h⟩ <;> rw [h]
  · exact hc
  · exact hc.erase hl

theorem C14_covers_get (p : Policy) (now : Nat) (k : Key) (hc : p.Covers 0) : (p.get now k).1.Covers 0 :=
  ⟨Nat.le_trans (Nat.add_le_add_right (MemStore.get_bytes_le p.inner now k) 0) hc.1, hc.2⟩

theorem C14_covers_flush (p : Policy) (now ttl : Nat) (hc : p.Covers 0) : (p.flush now ttl).Covers 0 :=
  ⟨Nat.le_trans (Nat.add_le_add_right (MemStore.flush_bytes_le p.inner now ttl) 0) hc.1, hc.2⟩

/-- the eviction loop terminates for every victim choice: it consumes at most one victim per stored
    record (structural recursion on the tape; each valid victim removes one record) -/
theorem C14_terminates (value : Nat) (tape : List Key) (p : Policy) (u : Nat) :
    (Policy.evictLoop value tape p u).tape.length ≤ tape.length := by
  fun_induction Policy.evictLoop value tape p u with
  | case4 _ _ _ _ _ _ _ _ _ ih => exact Nat.le_succ_of_le ih
  | case3 => exact Nat.le_succ _
  | _ => exact Nat.le_refl _

/-- eviction happens before the insert: an acknowledged store leaves its record in the store, whatever
    was evicted to make room -/
theorem C14_victim_not_pending (p : Policy) (now : Nat) (k : Key) (r : Record) (c : Nat)
    (h : (p.set now k r).2 = .ok c) : ∃ x, (p.set now k r).1.inner.mem.lookup k = some x ∧ x.value = r.value := by
  unfold Policy.set at *
  exact ⟨MemStore.stamp r c now, MemStore.set_ok_lookup h, rfl⟩

/-- a limit below one record: the store is emptied and the single record is kept -/
example : ((Policy.init 10).set 0 [1] (Record.new [1,2,3] 0 0 0)).1.inner.mem.bytes = 27 := by decide

/-- while no reset is racy: at every moment of every schedule the counter covers what is stored plus what is
    in flight (so nothing stored is ever unaccounted), whatever the threads, programs and victims -/
theorem C14_concurrent_cover (limit B now : Nat) (programs : List (List PCall)) (sched : List (Nat × Option Key))
    (hb : ∀ p ∈ programs, ∀ c ∈ p, c.Bounded B)
    (hr : ((PSys.init limit programs).run now sched).racy = false)
    (ho : ((PSys.init limit programs).run now sched).overflow = false) :
    ((PSys.init limit programs).run now sched).inner.mem.bytes + pendSum ((PSys.init limit programs).run now sched).threads
      ≤ ((PSys.init limit programs).run now sched).usage :=
  ((PSys.run_inv B _ now sched (PSys.init_inv B limit programs hb)).2 hr ho).cover

/-- from any state in which the invariant holds (e.g. after any earlier history): whenever no call is in progress the
    bytes stored are at most `max limit B`, provided no reset raced with another call on the way -/
theorem C14_concurrent_from (B : Nat) (s : PSys) (now : Nat) (sched : List (Nat × Option Key)) (h : PInv B s)
    (hq : (s.run now sched).quiescent = true) (hr : (s.run now sched).racy = false)
    (ho : (s.run now sched).overflow = false) : (s.run now sched).inner.mem.bytes ≤ max s.limit B := by
  obtain ⟨hl, hinv⟩ := PSys.run_inv B s now sched h
  obtain ⟨h1, h2⟩ := (hinv hr ho).at_rest (PSys.quiescent_spec _ hq)
  exact Nat.le_trans h1 (hl ▸ h2)

/-- **C14, concurrent clause (partial: quiet resets)**: any number of threads running any programs of stores,
    deletes, reads and flushes of records of at most `B` bytes, under every interleaving of their atomic
    operations and every victim choice: whenever no call is in progress, the bytes stored are at most
    `max limit B` (≤ limit + one record), provided no reset raced with another call. -/
theorem C14_concurrent_partial (limit B now : Nat) (programs : List (List PCall)) (sched : List (Nat × Option Key))
    (hb : ∀ p ∈ programs, ∀ c ∈ p, c.Bounded B)
    (hq : ((PSys.init limit programs).run now sched).quiescent = true)
    (hr : ((PSys.init limit programs).run now sched).racy = false)
    (ho : ((PSys.init limit programs).run now sched).overflow = false) :
    ((PSys.init limit programs).run now sched).inner.mem.bytes ≤ max limit B :=
  C14_concurrent_from B _ now sched (PSys.init_inv B limit programs hb) hq hr ho

/-- **the two models of `RandomPolicy::set` are one**: the micro-step model run by a single thread, with the tape's
    victims as the scheduler's choices, ends in the store, the counter and the answer of the sequential model — for
    every state, limit, record and every tape the loop accepts. The sequential theorems above are therefore statements
    about the micro-step model too, and the two correspondence suites (`policy`, `sched C14deep`) validate one model. -/
theorem C14_models_agree (inner : MemStore) (usage limit now : Nat) (k : Key) (r : Record) (tape : List Key)
    (hno : usage + r.len < U64)
    (hb : ((⟨inner, usage, limit, tape, false⟩ : Policy).set now k r).1.bad = false) :
    (oneThread inner usage limit ⟨[.set k r], .idle, []⟩ false false).run now ((0, none) :: seqSched tape) =
      oneThread ((⟨inner, usage, limit, tape, false⟩ : Policy).set now k r).1.inner
        ((⟨inner, usage, limit, tape, false⟩ : Policy).set now k r).1.usage limit
        ⟨[], .idle, [resOfCas ((⟨inner, usage, limit, tape, false⟩ : Policy).set now k r).2]⟩ false false :=
  set_agree inner usage limit now k r tape hno hb

def exRec (n : Nat) : Record := Record.new (List.replicate n 0) 0 0 0

/-- the witness schedule: two concurrent stores of 50 bytes into an empty store under a limit of 80, the second
    one finds the store empty while the first is still in flight and resets the counter; then one more store -/
def exRace : PSys :=
  (PSys.init 80 [[.set [1] (exRec 26)], [.set [2] (exRec 26)], [.set [3] (exRec 1)]]).run 0
    [(0, none), (1, none), (1, none), (1, none), (1, none), (0, none), (2, none), (2, none)]

/-- **the concurrent clause is FALSE as stated** (finding K-C14-reset-race): at rest, after a store of 25 bytes
    made with no other call in progress, 125 bytes are stored under a limit of 80 (> limit + the record just
    written), and the counter says 75 -/
theorem C14_racy_reset_breaks_bound :
    exRace.quiescent = true ∧ exRace.inner.mem.bytes = 125 ∧ exRace.usage = 75 ∧ exRace.limit + (exRec 1).len < 125 ∧
    exRace.racy = true ∧ exRace.overflow = false := by decide

/-- the premises of `C14_concurrent_partial` are met by a concurrent schedule with evictions -/
example :
    let s := (PSys.init 80 [[.set [1] (exRec 26)], [.set [2] (exRec 26), .delete [1] 0], [.get [2]]]).run 0
      [(0, none), (1, none), (0, none), (1, none), (1, some [1]), (2, none), (1, none), (1, none), (1, none), (1, none)]
    s.quiescent = true ∧ s.racy = false ∧ s.overflow = false ∧ s.inner.mem.bytes = 50 := by decide

end Memc

#print axioms Memc.Policy.Covers.erase
#print axioms Memc.evictLoop_spec
#print axioms Memc.C14_sequential
#print axioms Memc.C14_covers_delete
#print axioms Memc.C14_covers_get
#print axioms Memc.C14_covers_flush
#print axioms Memc.C14_terminates
#print axioms Memc.C14_victim_not_pending
#print axioms Memc.C14_concurrent_cover
#print axioms Memc.C14_concurrent_partial
#print axioms Memc.C14_concurrent_from
#print axioms Memc.C14_racy_reset_breaks_bound
#print axioms Memc.C14_models_agree

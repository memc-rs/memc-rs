import MemcVerif.Model.Handler
/-!
# L4 decoder state machine, L5 `binary_connection.rs` (read_frame, oversize skip), L6 `client_handler.rs`

`Codec.decode` mirrors `Decoder::decode` (two parser states). `decode1` is one turn of `read_frame`'s
loop on the bytes buffered so far (decode, and the ItemTooLarge skip arithmetic of the repaired code);
reading from the socket is modelled by appending a chunk to the buffer (`feed`).

Between the definitions stand the theorems `drain`'s termination needs, and with them what proofs about one turn
should use instead of unfolding `decode1`: the relation `Decode1` (one constructor per outcome) and `decode1_iff`.
-/
namespace Memc

inductive CodecState
  | none
  | headerParsed (h : ReqHeader)
deriving DecidableEq, Repr

inductive DecodeResult
  | needMore                 -- `Ok(None)`
  | frame (r : Req)          -- `Ok(Some(request))`
  | err                      -- `Err(_)`: read_frame propagates it, the client loop ends
deriving DecidableEq, Repr

namespace Codec

/-- `decode` after the header is known (second half of `Decoder::decode` + `parse_request`) -/
def afterHeader (limit : Nat) (h : ReqHeader) (buf : Bytes) : DecodeResult × CodecState × Bytes :=
  if h.bodyLen > limit then (.frame (.tooLarge h), .none, buf)
  else if h.bodyLen > buf.length then (.needMore, .headerParsed h, buf)
  else
    match parseBody h (buf.take h.bodyLen) with
    | some r => (.frame r, .none, buf.drop h.bodyLen)
    | none => (.err, .none, buf.drop h.bodyLen)

/-- `Decoder::decode` -/
def decode (limit : Nat) (st : CodecState) (buf : Bytes) : DecodeResult × CodecState × Bytes :=
  match st with
  | .none =>
    if buf.length < HEADER_LEN then (.needMore, .none, buf)
    else
      let h := parseHeader buf
      if !headerValid h then (.err, .headerParsed h, buf.drop HEADER_LEN)
      else afterHeader limit h (buf.drop HEADER_LEN)
  | .headerParsed h => afterHeader limit h buf

end Codec

/-- connection-level parser state: the codec's state, plus "discarding the rest of an oversized
    body" (`skip_bytes`), plus "no further reads" -/
inductive PState
  | idle
  | hdr (h : ReqHeader)
  | skipping (h : ReqHeader) (n : Nat)
  | dead
deriving DecidableEq, Repr

inductive Ev
  | frame (r : Req)
  | protoErr
deriving DecidableEq, Repr

inductive Dec
  | needMore (st : PState) (buf : Bytes)
  | emit (e : Ev) (st : PState) (buf : Bytes)
deriving DecidableEq, Repr

/-- what `read_frame` does with the codec's answer -/
def afterDecode (res : DecodeResult × CodecState × Bytes) : Dec :=
  match res with
  | (.needMore, .none, buf) => .needMore .idle buf
  | (.needMore, .headerParsed h, buf) => .needMore (.hdr h) buf
  | (.err, _, _) => .emit .protoErr .dead []
  | (.frame (.tooLarge h), _, buf) =>
    if buf.length ≥ h.bodyLen then .emit (.frame (.tooLarge h)) .idle (buf.drop h.bodyLen)
    else .needMore (.skipping h (h.bodyLen - buf.length)) []
  | (.frame r, _, buf) => .emit (.frame r) .idle buf

/-- one turn of `read_frame`'s loop on the buffered bytes -/
def decode1 (limit : Nat) : PState → Bytes → Dec
  | .idle, buf => afterDecode (Codec.decode limit .none buf)
  | .hdr h, buf => afterDecode (Codec.decode limit (.headerParsed h) buf)
  | .skipping h n, buf =>
    if n ≤ buf.length then .emit (.frame (.tooLarge h)) .idle (buf.drop n)
    else .needMore (.skipping h (n - buf.length)) []
  | .dead, _ => .needMore .dead []

/-- decreases with every emitted event: bytes are consumed, or (the `+ 1`: an empty body behind a header, nothing left
    to discard) the state returns to `idle` -/
def pmeasure (st : PState) (buf : Bytes) : Nat :=
  2 * buf.length + (match st with | .idle => 0 | .dead => 0 | _ => 1)

end Memc

namespace Memc

/-- the shape of every parser's first line, `if !request_valid(..) { return Err }` -/
theorem of_guard_eq_some {α : Type} {c : Bool} {x : Option α} {r : α} (h : (if !c then none else x) = some r) :
    c = true ∧ x = some r := by
  cases c
  · cases h
  · exact ⟨rfl, h⟩

theorem parseBody_ne_tooLarge (h h' : ReqHeader) (b : Bytes) : parseBody h b ≠ some (.tooLarge h') := by
  unfold parseBody
  cases opGroup h.opcode <;> intro hp
  case unsupported | invalid => cases hp
  case get | delete | headerOnly | flush | append => cases (of_guard_eq_some hp).2
  case delta | set => cases (Option.ite_none_left_eq_some.1 (of_guard_eq_some hp).2).2

theorem decode1_idle (limit : Nat) (buf : Bytes) :
    decode1 limit .idle buf =
      if buf.length < HEADER_LEN then .needMore .idle buf
      else if !headerValid (parseHeader buf) then .emit .protoErr .dead []
      else decode1 limit (.hdr (parseHeader buf)) (buf.drop HEADER_LEN) := by
  dsimp only [decode1, Codec.decode]
  rw [apply_ite afterDecode, apply_ite afterDecode]
  rfl

/-- a body above the limit is discarded as if `skip_bytes` had been entered with the whole body owed -/
theorem decode1_hdr (limit : Nat) (h : ReqHeader) (buf : Bytes) :
    decode1 limit (.hdr h) buf =
      if limit < h.bodyLen then decode1 limit (.skipping h h.bodyLen) buf
      else if buf.length < h.bodyLen then .needMore (.hdr h) buf
      else
        match parseBody h (buf.take h.bodyLen) with
        | some r => .emit (.frame r) .idle (buf.drop h.bodyLen)
        | none => .emit .protoErr .dead [] := by
  dsimp only [decode1, Codec.decode, Codec.afterHeader]
  rw [apply_ite afterDecode, apply_ite afterDecode]
  refine ite_congr rfl (fun _ => rfl) fun _ => ite_congr rfl (fun _ => rfl) fun _ => ?_
  -- `afterDecode` treats one frame specially, the codec's own `tooLarge`, and no parser returns that
  cases hp : parseBody h (buf.take h.bodyLen) with
  | none => rfl
  | some r =>
    cases r with
    | tooLarge h' => exact absurd hp (parseBody_ne_tooLarge h h' _)
    | _ => rfl

/-- What one turn of the loop does, one constructor per outcome. A valid header makes `idle` act like `hdr` on the
    bytes behind it; a body above the limit makes `hdr h` act like `skipping h h.bodyLen`. -/
inductive Decode1 (limit : Nat) : PState → Bytes → Dec → Prop
  | short {buf} : buf.length < HEADER_LEN → Decode1 limit .idle buf (.needMore .idle buf)
  | badHeader {buf} : HEADER_LEN ≤ buf.length → headerValid (parseHeader buf) = false →
      Decode1 limit .idle buf (.emit .protoErr .dead [])
  | header {buf d} : HEADER_LEN ≤ buf.length → headerValid (parseHeader buf) = true →
      Decode1 limit (.hdr (parseHeader buf)) (buf.drop HEADER_LEN) d → Decode1 limit .idle buf d
  | oversize {h buf d} : limit < h.bodyLen → Decode1 limit (.skipping h h.bodyLen) buf d → Decode1 limit (.hdr h) buf d
  | wait {h buf} : h.bodyLen ≤ limit → buf.length < h.bodyLen → Decode1 limit (.hdr h) buf (.needMore (.hdr h) buf)
  | frame {h buf r} : h.bodyLen ≤ limit → h.bodyLen ≤ buf.length → parseBody h (buf.take h.bodyLen) = some r →
      Decode1 limit (.hdr h) buf (.emit (.frame r) .idle (buf.drop h.bodyLen))
  | badBody {h buf} : h.bodyLen ≤ limit → h.bodyLen ≤ buf.length → parseBody h (buf.take h.bodyLen) = none →
      Decode1 limit (.hdr h) buf (.emit .protoErr .dead [])
  | skipped {h n buf} : n ≤ buf.length →
      Decode1 limit (.skipping h n) buf (.emit (.frame (.tooLarge h)) .idle (buf.drop n))
  | skipMore {h n buf} : buf.length < n →
      Decode1 limit (.skipping h n) buf (.needMore (.skipping h (n - buf.length)) [])
  | dead {buf} : Decode1 limit .dead buf (.needMore .dead [])

theorem Decode1.eq {limit st buf d} (h : Decode1 limit st buf d) : decode1 limit st buf = d := by
  induction h with
  | short hl => rw [decode1_idle, if_pos hl]
  | badHeader hl hv => rw [decode1_idle, if_neg (Nat.not_lt.2 hl), hv]; rfl
  | header hl hv _ ih => rw [decode1_idle, if_neg (Nat.not_lt.2 hl), hv, ih]; rfl
  | oversize hbig _ ih => rw [decode1_hdr, if_pos hbig, ih]
  | wait hle hlt => rw [decode1_hdr, if_neg (Nat.not_lt.2 hle), if_pos hlt]
  | frame hle hge hp => rw [decode1_hdr, if_neg (Nat.not_lt.2 hle), if_neg (Nat.not_lt.2 hge), hp]
  | badBody hle hge hp => rw [decode1_hdr, if_neg (Nat.not_lt.2 hle), if_neg (Nat.not_lt.2 hge), hp]
  | skipped hle => exact if_pos hle
  | skipMore hlt => exact if_neg (Nat.not_le.2 hlt)
  | dead => rfl

theorem decode1_spec (limit : Nat) (st : PState) (buf : Bytes) : Decode1 limit st buf (decode1 limit st buf) := by
  -- the outcome of any derivation is `decode1`'s (`Decode1.eq`), so it is enough to exhibit one
  suffices ∃ d, Decode1 limit st buf d from let ⟨_, h⟩ := this; h.eq ▸ h
  have skipping (h n buf) : ∃ d, Decode1 limit (.skipping h n) buf d :=
    if hn : n ≤ buf.length then ⟨_, .skipped hn⟩ else ⟨_, .skipMore (Nat.lt_of_not_le hn)⟩
  have hdr (h buf) : ∃ d, Decode1 limit (.hdr h) buf d := by
    by_cases h1 : limit < h.bodyLen
    · exact (skipping h h.bodyLen buf).imp fun _ => .oversize h1
    by_cases h2 : buf.length < h.bodyLen
    · exact ⟨_, .wait (Nat.le_of_not_lt h1) h2⟩
    cases hp : parseBody h (buf.take h.bodyLen) with
    | some r => exact ⟨_, .frame (Nat.le_of_not_lt h1) (Nat.le_of_not_lt h2) hp⟩
    | none => exact ⟨_, .badBody (Nat.le_of_not_lt h1) (Nat.le_of_not_lt h2) hp⟩
  cases st with
  | idle =>
    by_cases h1 : buf.length < HEADER_LEN
    · exact ⟨_, .short h1⟩
    cases hv : headerValid (parseHeader buf) with
    | false => exact ⟨_, .badHeader (Nat.le_of_not_lt h1) hv⟩
    | true => exact (hdr _ _).imp fun _ => .header (Nat.le_of_not_lt h1) hv
  | hdr h => exact hdr h buf
  | skipping h n => exact skipping h n buf
  | dead => exact ⟨_, .dead⟩

theorem decode1_iff {limit st buf d} : decode1 limit st buf = d ↔ Decode1 limit st buf d :=
  ⟨fun h => h ▸ decode1_spec limit st buf, Decode1.eq⟩

theorem Decode1.measure {limit st buf d} (h : Decode1 limit st buf d) {e st' buf'} (hd : d = .emit e st' buf') :
    pmeasure st' buf' < pmeasure st buf := by
  induction h with
  | header hl _ _ ih =>
    refine Nat.lt_of_lt_of_le (ih hd) ?_
    simp only [pmeasure, List.length_drop, HEADER_LEN] at hl ⊢
    omega
  | oversize _ _ ih => exact ih hd
  | badHeader hl => cases hd; exact Nat.mul_pos Nat.two_pos (Nat.lt_of_lt_of_le (by decide) hl)
  | frame | skipped =>
    cases hd
    simp only [pmeasure, List.length_drop]
    exact Nat.lt_succ_of_le (Nat.mul_le_mul_left 2 (Nat.sub_le ..))
  | badBody => cases hd; exact Nat.succ_pos _
  | _ => cases hd

theorem decode1_emit_measure {limit st buf e st' buf'} (hd : decode1 limit st buf = .emit e st' buf') :
    pmeasure st' buf' < pmeasure st buf :=
  (decode1_iff.1 hd).measure rfl

/-- decode everything that is complete in the buffer: events, parser state and residue afterwards -/
def drain (limit : Nat) (st : PState) (buf : Bytes) : List Ev × PState × Bytes :=
  match _hd : decode1 limit st buf with
  | .needMore st' buf' => ([], st', buf')
  | .emit e st' buf' =>
    let r := drain limit st' buf'
    (e :: r.1, r.2)
termination_by pmeasure st buf
decreasing_by exact decode1_emit_measure ‹_›

end Memc

namespace Memc

/-- `BinaryRequest::QuitQuietly` (intercepted by `Client::handle_request` before the handler) -/
def isQuitQ (r : Req) : Bool :=
  match r with
  | .headerOnly h => h.opcode = 0x17
  | _ => false

def Resp.isQuit : Resp → Bool
  | .quit _ => true
  | _ => false

section
variable {σ : Type} (C : CacheOps σ)

/-- `Client::handle_frame`/`handle_request` on one decoder event:
    new store, bytes written to the socket, "leave the receive loop". -/
def execEv (now : Nat) (s : σ) (e : Ev) : σ × Bytes × Bool :=
  match e with
  | .protoErr => (s, [], true)
  | .frame r =>
    if isQuitQ r then (s, [], true)
    else
      match handleRequest C s now r with
      | (s', some resp) => (s', encode resp, resp.isQuit)
      | (s', none) => (s', [], false)

/-- the receive loop over a list of decoder events; events after the loop was left are not looked at -/
def execEvs (now : Nat) : σ → List Ev → σ × Bytes × Bool
  | s, [] => (s, [], false)
  | s, e :: es =>
    let r1 := execEv C now s e
    if r1.2.2 then r1
    else
      let r2 := execEvs now r1.1 es
      (r2.1, r1.2.1 ++ r2.2.1, r2.2.2)

structure Conn where
  pst : PState
  buf : Bytes
  closed : Bool
deriving DecidableEq, Repr

def Conn.init : Conn := ⟨.idle, [], false⟩
def Conn.dead : Conn := ⟨.dead, [], true⟩

/-- bytes arrive on the socket: everything that became complete is executed in order -/
def feed (limit now : Nat) (c : Conn) (s : σ) (chunk : Bytes) : Conn × σ × Bytes :=
  if c.closed then (c, s, [])
  else
    let d := drain limit c.pst (c.buf ++ chunk)
    let r := execEvs C now s d.1
    if r.2.2 then (Conn.dead, r.1, r.2.1) else (⟨d.2.1, d.2.2, false⟩, r.1, r.2.1)

/-- the peer half-closes (read returns 0). While an oversized body is being discarded `skip_bytes`
    returns `Ok`, so the pending "too large" answer is still written; in every other state nothing is. -/
def eof (now : Nat) (c : Conn) (s : σ) : Conn × σ × Bytes :=
  if c.closed then (c, s, [])
  else
    match c.pst with
    | .skipping h _ =>
      let r := execEv C now s (.frame (.tooLarge h))
      (Conn.dead, r.1, r.2.1)
    | _ => (Conn.dead, s, [])

/-- the receive timeout elapses while `read_frame` is pending (`Client::handle`: `timeout(rx, read_frame())` → the client
    is dropped): the connection ends in whatever state it is — idle, in the middle of a request, or in the middle of
    discarding an oversized body (whose 'too large' answer is then never written) — and nothing is executed or written -/
def idleTimeout (c : Conn) : Conn := if c.closed then c else Conn.dead

end
end Memc
